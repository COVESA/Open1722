/- More fuel never changes a result (`exec_mono`, `exec_le`, `callFn_le`), so a theorem about `callFn`
   at one fuel serves every call site (`exec_call`). -/
import O1722.CSem.Lemmas
namespace O1722.C

theorem exec_mono (env : Env) : ∀ (f : Nat) (s : Stmt) (L : Locals) (st : St) (r : Ctl × Locals × St),
    exec env f s L st = some r → exec env (f + 1) s L st = some r := by
  intro f
  induction f with
  | zero => intro s L st r h; simp [exec] at h
  | succ f ih =>
    intro s L st r h
    cases s with
    | seq a b =>
      rw [exec, Option.bind_eq_some_iff] at h ⊢
      obtain ⟨⟨c, L1, s1⟩, ha, h⟩ := h
      refine ⟨_, ih _ _ _ _ ha, ?_⟩
      cases c with
      | next => exact ih _ _ _ _ h
      | ret v => exact h
    | ite c a b =>
      rw [exec, Option.bind_eq_some_iff] at h ⊢
      obtain ⟨x, hc, h⟩ := h
      refine ⟨x, hc, ?_⟩
      by_cases hx : x ≠ 0
      · rw [if_pos hx] at h ⊢; exact ih _ _ _ _ h
      · rw [if_neg hx] at h ⊢; exact ih _ _ _ _ h
    | «while» c b =>
      rw [exec, Option.bind_eq_some_iff] at h ⊢
      obtain ⟨x, hc, h⟩ := h
      refine ⟨x, hc, ?_⟩
      by_cases hx : x = 0
      · rwa [if_pos hx] at h ⊢
      · rw [if_neg hx, Option.bind_eq_some_iff] at h ⊢
        obtain ⟨⟨c', L1, s1⟩, hb, h⟩ := h
        refine ⟨_, ih _ _ _ _ hb, ?_⟩
        cases c' with
        | next => exact ih _ _ _ _ h
        | ret v => exact h
    | call dst fn args =>
      rw [exec, Option.bind_eq_some_iff] at h ⊢
      obtain ⟨vs, hargs, h⟩ := h
      refine ⟨vs, hargs, ?_⟩
      split at h
      · rw [Option.map_eq_some_iff] at h ⊢
        obtain ⟨r1, hb, h⟩ := h
        exact ⟨r1, ih _ _ _ _ hb, h⟩
      · exact h
    | _ => simpa [exec] using h    -- the other statements do not pass the fuel on

theorem exec_le (env : Env) {f g : Nat} (hfg : f ≤ g) {s : Stmt} {L : Locals} {st : St} {r : Ctl × Locals × St}
    (h : exec env f s L st = some r) : exec env g s L st = some r := by
  induction hfg with
  | refl => exact h
  | step _ ih => exact exec_mono env _ _ _ _ _ ih

theorem callFn_le (env : Env) {f g : Nat} (hfg : f ≤ g) {fn : String} {args : List Nat} {st : St} {r : Nat × St}
    (h : callFn env f fn args st = some r) : callFn env g fn args st = some r := by
  unfold callFn at h ⊢
  cases hF : findFn env.prog fn with
  | none => simp [hF] at h
  | some F =>
    simp only [hF, Option.map_eq_some_iff] at h ⊢
    obtain ⟨rb, hb, h⟩ := h
    exact ⟨rb, exec_le env hfg hb, h⟩

theorem exec_call {env : Env} {n g : Nat} {dst : Option Nat} {fn : String} {args : List Expr}
    {L : Locals} {s s1 : St} {vs : List Nat} {v : Nat}
    (hargs : evalArgs env L args = some vs) (h : callFn env n fn vs s = some (v, s1)) (hn : n < g) :
    exec env g (.call dst fn args) L s = some (.next, setDst L dst v, s1) := by
  obtain ⟨g, rfl⟩ : ∃ g', g = g' + 1 := ⟨g - 1, by omega⟩
  have h := callFn_le env (Nat.le_of_lt_succ hn) h
  simp only [callFn] at h
  split at h
  · simp only [Option.map_eq_some_iff] at h
    obtain ⟨⟨c, L1, s2⟩, hb, h⟩ := h
    cases c <;> cases h <;> simp [exec, *]
  · cases h
end O1722.C
