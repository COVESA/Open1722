/-
  How the semantics of CSem/Eval.lean is used in proofs: evaluation lemmas on values that are in range
  (the simp set `csem`) turn `evalE` of a C expression into plain `Nat` arithmetic; the step equations
  of `exec` run a statement one construct at a time.
-/
import O1722.CSem.Eval
import O1722.CSem.Attr

namespace O1722.C

theorem toInt_of_unsigned {t : Ty} (h : t.signed = false) (v : Nat) : t.toInt v = (v : Int) := by
  simp [Ty.toInt, h]

theorem toInt_u8 (v : Nat) : Ty.toInt .u8 v = (v : Int) := toInt_of_unsigned rfl v
theorem toInt_u16 (v : Nat) : Ty.toInt .u16 v = (v : Int) := toInt_of_unsigned rfl v
theorem toInt_u32 (v : Nat) : Ty.toInt .u32 v = (v : Int) := toInt_of_unsigned rfl v
theorem toInt_u64 (v : Nat) : Ty.toInt .u64 v = (v : Int) := toInt_of_unsigned rfl v

theorem toInt_i32_small (v : Nat) (h : v < 2147483648) : Ty.toInt .i32 v = (v : Int) := by
  simp [Ty.toInt, Ty.signed, Ty.bits]
  intro h'; have := of_decide_eq_true h'; omega

theorem toInt_i32_neg (v : Nat) (h : 2147483648 ≤ v) : Ty.toInt .i32 v = (v : Int) - 4294967296 := by
  simp [Ty.toInt, Ty.signed, Ty.bits]
  intro h'; have := of_decide_eq_false h'; omega

theorem ofInt_natCast (t : Ty) (v : Nat) : t.ofInt (v : Int) = v % 2 ^ t.bits := by
  unfold Ty.ofInt
  rw [← Int.natCast_emod, Int.toNat_natCast]

theorem conv_of_unsigned (s d : Ty) (v : Nat) (hs : s.signed = false) : conv s d v = v % 2 ^ d.bits := by
  rw [conv, toInt_of_unsigned hs, ofInt_natCast]

@[csem] theorem conv_u8 (d : Ty) (v : Nat) : conv .u8 d v = v % 2 ^ d.bits := conv_of_unsigned _ _ _ rfl
@[csem] theorem conv_u16 (d : Ty) (v : Nat) : conv .u16 d v = v % 2 ^ d.bits := conv_of_unsigned _ _ _ rfl
@[csem] theorem conv_u32 (d : Ty) (v : Nat) : conv .u32 d v = v % 2 ^ d.bits := conv_of_unsigned _ _ _ rfl
@[csem] theorem conv_u64 (d : Ty) (v : Nat) : conv .u64 d v = v % 2 ^ d.bits := conv_of_unsigned _ _ _ rfl

theorem conv_i32_small (d : Ty) (v : Nat) (h : v < 2147483648) : conv .i32 d v = v % 2 ^ d.bits := by
  unfold conv; rw [toInt_i32_small v h, ofInt_natCast]

theorem conv_i32_narrow (d : Ty) (v : Nat) (hv : v < 4294967296) (hd : d.bits ≤ 32) :
    conv .i32 d v = v % 2 ^ d.bits := by
  by_cases h : v < 2147483648
  · exact conv_i32_small d v h
  · unfold conv; rw [toInt_i32_neg v (by omega)]
    cases d <;> simp [Ty.ofInt, Ty.bits] at hd ⊢ <;> omega

@[csem] theorem conv_i32_u8 (v : Nat) (hv : v < 4294967296) : conv .i32 .u8 v = v % 256 :=
  conv_i32_narrow .u8 v hv (by decide)
@[csem] theorem conv_i32_u16 (v : Nat) (hv : v < 4294967296) : conv .i32 .u16 v = v % 65536 :=
  conv_i32_narrow .u16 v hv (by decide)
@[csem] theorem conv_i32_u32 (v : Nat) (hv : v < 4294967296) : conv .i32 .u32 v = v := by
  rw [conv_i32_narrow .u32 v hv (by decide)]; exact Nat.mod_eq_of_lt hv
@[csem] theorem conv_i32_u64 (v : Nat) (hv : v < 2147483648) : conv .i32 .u64 v = v := by
  rw [conv_i32_small .u64 v hv]; simp only [Ty.bits]; exact Nat.mod_eq_of_lt (by omega)

theorem fits_i32 (r : Int) (h1 : -2147483648 ≤ r) (h2 : r < 2147483648) : Ty.fits .i32 r = true := by
  simp [Ty.fits, Ty.signed, Ty.bits]
  exact decide_eq_true ⟨h1, h2⟩

@[csem] theorem add_i32 (a b : Nat) (h : a + b < 2147483648) : evalBin .add .i32 a b = some (a + b) := by
  simp only [evalBin, arith, Ty.signed, if_true]
  rw [toInt_i32_small a (by omega), toInt_i32_small b (by omega), fits_i32 _ (by omega) (by omega), if_pos rfl]
  rw [← Int.natCast_add, ofInt_natCast]
  simp only [Ty.bits]; rw [Nat.mod_eq_of_lt]; omega

/-- The difference may be negative: the result is its two's-complement representation. -/
theorem sub_i32 (a b : Nat) (ha : a < 2147483648) (hb : b < 2147483648) :
    evalBin .sub .i32 a b = some ((a + 4294967296 - b) % 4294967296) := by
  simp only [evalBin, arith, Ty.signed, if_true]
  rw [toInt_i32_small a ha, toInt_i32_small b hb, fits_i32 _ (by omega) (by omega), if_pos rfl]
  congr 1
  simp [Ty.ofInt, Ty.bits]
  omega

@[csem] theorem sub_i32_le (a b : Nat) (ha : a < 2147483648) (hb : b ≤ a) : evalBin .sub .i32 a b = some (a - b) := by
  rw [sub_i32 a b ha (by omega)]; congr 1; omega

@[csem] theorem mul_i32 (a b : Nat) (h : a * b < 2147483648) (ha : a < 2147483648) (hb : b < 2147483648) :
    evalBin .mul .i32 a b = some (a * b) := by
  simp only [evalBin, arith, Ty.signed, if_true]
  rw [toInt_i32_small a ha, toInt_i32_small b hb, ← Int.natCast_mul,
    fits_i32 _ (by omega) (by omega), if_pos rfl, ofInt_natCast]
  simp only [Ty.bits]; rw [Nat.mod_eq_of_lt]; omega

@[csem] theorem rem_i32 (a b : Nat) (ha : a < 2147483648) (hb : b < 2147483648) (hb0 : b ≠ 0) :
    evalBin .rem .i32 a b = some (a % b) := by
  have hle : a / b ≤ a := Nat.div_le_self a b
  have hlt : a % b < b := Nat.mod_lt _ (by omega)
  simp only [evalBin, if_neg hb0, Ty.signed, Bool.true_and]
  rw [toInt_i32_small a ha, toInt_i32_small b hb, ← Int.ofNat_tdiv, ← Int.ofNat_tmod]
  generalize a / b = q at hle
  generalize a % b = r at hlt
  rw [fits_i32 _ (by omega) (by omega), ofInt_natCast]
  simp only [Bool.not_true, Bool.false_eq_true, if_false, Ty.bits]
  rw [Nat.mod_eq_of_lt]; omega

@[csem] theorem lt_i32 (a b : Nat) (ha : a < 2147483648) (hb : b < 2147483648) :
    evalBin .lt .i32 a b = some (b2n (decide (a < b))) := by
  simp only [evalBin]; rw [toInt_i32_small a ha, toInt_i32_small b hb]; simp

@[csem] theorem eq_any (t : Ty) (a b : Nat) : evalBin .eq t a b = some (b2n (decide (a = b))) := rfl
@[csem] theorem ne_any (t : Ty) (a b : Nat) : evalBin .ne t a b = some (b2n (decide (a ≠ b))) := rfl

@[csem] theorem lt_u32 (a b : Nat) : evalBin .lt .u32 a b = some (b2n (decide (a < b))) := by
  simp only [evalBin, toInt_u32]; simp
@[csem] theorem gt_u32 (a b : Nat) : evalBin .gt .u32 a b = some (b2n (decide (a > b))) := by
  simp only [evalBin, toInt_u32]; simp
@[csem] theorem ge_u32 (a b : Nat) : evalBin .ge .u32 a b = some (b2n (decide (a ≥ b))) := by
  simp only [evalBin, toInt_u32]; simp

@[csem] theorem add_u64 (a b : Nat) : evalBin .add .u64 a b = some ((a + b) % 18446744073709551616) := by
  simp only [evalBin, arith, Ty.signed, toInt_u64]
  rw [← Int.natCast_add, ofInt_natCast]; simp [Ty.bits]

@[csem] theorem add_u32 (a b : Nat) : evalBin .add .u32 a b = some ((a + b) % 4294967296) := by
  simp only [evalBin, arith, Ty.signed, toInt_u32]
  rw [← Int.natCast_add, ofInt_natCast]; simp [Ty.bits]

@[csem] theorem mul_u64 (a b : Nat) : evalBin .mul .u64 a b = some ((a * b) % 18446744073709551616) := by
  simp only [evalBin, arith, Ty.signed, toInt_u64]
  rw [← Int.natCast_mul, ofInt_natCast]; simp [Ty.bits]

@[csem] theorem sub_u64_le (a b : Nat) (ha : a < 18446744073709551616) (hb : b ≤ a) :
    evalBin .sub .u64 a b = some (a - b) := by
  simp only [evalBin, arith, Ty.signed, toInt_u64]
  congr 1
  simp [Ty.ofInt, Ty.bits]; omega

@[csem] theorem div_u64 (a b : Nat) (ha : a < 18446744073709551616) (hb0 : b ≠ 0) :
    evalBin .div .u64 a b = some (a / b) := by
  have hle : a / b ≤ a := Nat.div_le_self a b
  simp only [evalBin, if_neg hb0, arith, Ty.signed, toInt_u64]
  rw [← Int.ofNat_tdiv, ofInt_natCast]
  simp only [Ty.bits, Bool.false_eq_true, if_false]
  rw [Nat.mod_eq_of_lt]; omega

@[csem] theorem shl_u64 (a b : Nat) (hb : b < 64) :
    evalBin .shl .u64 a b = some ((a <<< b) % 18446744073709551616) := by
  have : ¬ 64 ≤ b := by omega
  simp [evalBin, Ty.bits, Ty.signed, this]

@[csem] theorem shl_u32 (a b : Nat) (hb : b < 32) :
    evalBin .shl .u32 a b = some ((a <<< b) % 4294967296) := by
  have : ¬ 32 ≤ b := by omega
  simp [evalBin, Ty.bits, Ty.signed, this]

@[csem] theorem shr_u32 (a b : Nat) (hb : b < 32) : evalBin .shr .u32 a b = some (a >>> b) := by
  have : ¬ 32 ≤ b := by omega
  simp [evalBin, Ty.bits, Ty.signed, this]

@[csem] theorem shr_u64 (a b : Nat) (hb : b < 64) : evalBin .shr .u64 a b = some (a >>> b) := by
  have : ¬ 64 ≤ b := by omega
  simp [evalBin, Ty.bits, Ty.signed, this]

@[csem] theorem band_any (t : Ty) (a b : Nat) : evalBin .band t a b = some (a &&& b) := rfl
@[csem] theorem bor_any (t : Ty) (a b : Nat) : evalBin .bor t a b = some (a ||| b) := rfl
@[csem] theorem bnot_u32 (a : Nat) : evalUn .bnot .u32 a = some (a ^^^ 4294967295) := rfl

@[csem] theorem b2n_true : b2n true = 1 := rfl
@[csem] theorem b2n_false : b2n false = 0 := rfl

attribute [csem] evalE evalArgs Ty.bits Nat.mod_eq_of_lt

@[simp] theorem upd_same (L : Locals) (i v : Nat) : upd L i v i = v := by simp [upd]
/-- Tried before the arguments are simplified (`↓`): a look-up then drops the values stored in
    the other slots unseen, instead of simplifying every one of them at every look-up. -/
@[csem ↓] theorem upd_apply (L : Locals) (i v j : Nat) : upd L i v j = if j = i then v else L j := rfl

/-! ### one step of `exec`

  Each equation has the run of the sub-statements as hypotheses and leaves locals, state and fuel
  of every intermediate point to unification: `refine exec_seq (exec_set (v := …) ?_) ?_` reads
  "the slot receives this value, then …", and the only goals left are `evalE … = some …`, one per
  C expression.  `simp` is never shown a control construct. -/

section
variable {env : Env} {f : Nat} {L L1 : Locals} {s s1 : St} {r : Option (Ctl × Locals × St)}

theorem exec_skip : exec env (f + 1) .skip L s = some (.next, L, s) := rfl

theorem exec_set {i : Nat} {e : Expr} {v : Nat} (h : evalE env L e = some v) :
    exec env (f + 1) (.set i e) L s = some (.next, upd L i v, s) := by
  simp [exec, h]

theorem exec_seq {a b : Stmt} (ha : exec env f a L s = some (.next, L1, s1)) (hb : exec env f b L1 s1 = r) :
    exec env (f + 1) (.seq a b) L s = r := by
  simp [exec, ha, hb]

theorem exec_ite_pos {c : Expr} {a b : Stmt} {x : Nat} (hc : evalE env L c = some x) (hx : x ≠ 0)
    (ha : exec env f a L s = r) : exec env (f + 1) (.ite c a b) L s = r := by
  simp [exec, hc, hx, ha]

theorem exec_ite_neg {c : Expr} {a b : Stmt} (hc : evalE env L c = some 0)
    (hb : exec env f b L s = r) : exec env (f + 1) (.ite c a b) L s = r := by
  simp [exec, hc, hb]

theorem exec_while_pos {c : Expr} {b : Stmt} {x : Nat} (hc : evalE env L c = some x) (hx : x ≠ 0)
    (hb : exec env f b L s = some (.next, L1, s1)) (hw : exec env f (.while c b) L1 s1 = r) :
    exec env (f + 1) (.while c b) L s = r := by
  simp [exec, hc, hx, hb, hw]

theorem exec_while_neg {c : Expr} {b : Stmt} (hc : evalE env L c = some 0) :
    exec env (f + 1) (.while c b) L s = some (.next, L, s) := by
  simp [exec, hc]

theorem exec_loadObj {i k p : Nat} {a : Expr} (ha : evalE env L a = some p) (hp : p ≠ 0) :
    exec env (f + 1) (.loadObj i k a) L s
      = some (.next, upd L i (load env.endian k s.mem p), ⟨s.mem, s.log ++ [⟨p, k, 1, false⟩]⟩) := by
  simp [exec, ha, hp]

theorem exec_storeObj {i k p : Nat} {a : Expr} (ha : evalE env L a = some p) (hp : p ≠ 0) :
    exec env (f + 1) (.storeObj a k i) L s
      = some (.next, L, ⟨store env.endian k s.mem p (L i), s.log ++ [⟨p, k, 1, true⟩]⟩) := by
  simp [exec, ha, hp]

theorem exec_storeVal {k p v : Nat} {a x : Expr} (ha : evalE env L a = some p) (hx : evalE env L x = some v)
    (hp : p ≠ 0) :
    exec env (f + 1) (.storeVal a k x) L s
      = some (.next, L, ⟨store env.endian k s.mem p v, s.log ++ [⟨p, k, k, true⟩]⟩) := by
  simp [exec, ha, hx, hp]

theorem exec_copy {d sr n : Expr} {pd ps k : Nat} (hd : evalE env L d = some pd) (hs : evalE env L sr = some ps)
    (hn : evalE env L n = some k) (hp : k = 0 ∨ pd ≠ 0 ∧ ps ≠ 0) (hdis : disjointRanges pd ps k = true) :
    exec env (f + 1) (.copy d sr n) L s
      = some (.next, L, ⟨s.mem.write pd (s.mem.read ps k), s.log ++ [⟨ps, k, 1, false⟩, ⟨pd, k, 1, true⟩]⟩) := by
  have : ¬ (k ≠ 0 ∧ (pd = 0 ∨ ps = 0)) := by omega
  simp [exec, hd, hs, hn, hdis, this]

theorem exec_fill {d v n : Expr} {pd x k : Nat} (hd : evalE env L d = some pd) (hv : evalE env L v = some x)
    (hn : evalE env L n = some k) (hp : k = 0 ∨ pd ≠ 0) :
    exec env (f + 1) (.fill d v n) L s
      = some (.next, L, ⟨s.mem.write pd (List.replicate k (Fin.ofNat 256 x)), s.log ++ [⟨pd, k, 1, true⟩]⟩) := by
  have : ¬ (k ≠ 0 ∧ pd = 0) := by omega
  simp [exec, hd, hv, hn, this]

theorem exec_ret {e : Expr} {v : Nat} (h : evalE env L e = some v) :
    exec env (f + 1) (.ret (some e)) L s = some (.ret v, L, s) := by
  simp [exec, h]

theorem callFn_ret {fn : String} {F : Fn} {args : List Nat} {v : Nat} (hF : findFn env.prog fn = some F)
    (h : exec env f F.body (mkFrame args) s = some (.ret v, L1, s1)) : callFn env f fn args s = some (v, s1) := by
  simp [callFn, hF, h]

theorem callFn_next {fn : String} {F : Fn} {args : List Nat} (hF : findFn env.prog fn = some F)
    (h : exec env f F.body (mkFrame args) s = some (.next, L1, s1)) : callFn env f fn args s = some (0, s1) := by
  simp [callFn, hF, h]
end

end O1722.C
