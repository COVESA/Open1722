/-
  A theorem about EVERY program of the C subset (hence about all serialised functions of the library at
  once): running a statement only ever EXTENDS the access log, and the memory afterwards differs from the
  memory before only at addresses covered by a WRITE entry the run appended.  The access log is therefore
  a sound footprint: the per-function facts "every logged access lies inside the field's quadlets / is
  byte-wise" (C03, C15) and "readers log no write" (C16) bound what the C text can touch.
-/
import O1722.CSem.Mono
import O1722.Lemmas.Mem
namespace O1722.C

def Covered (ws : List Access) (a : Nat) : Prop :=
  ∃ w ∈ ws, w.write = true ∧ w.addr ≤ a ∧ a < w.addr + w.width

theorem covered_append {w1 w2 : List Access} {a : Nat} : Covered (w1 ++ w2) a ↔ Covered w1 a ∨ Covered w2 a := by
  unfold Covered
  constructor
  · rintro ⟨w, hw, h⟩
    rcases List.mem_append.mp hw with h1 | h2
    · exact Or.inl ⟨w, h1, h⟩
    · exact Or.inr ⟨w, h2, h⟩
  · rintro (⟨w, hw, h⟩ | ⟨w, hw, h⟩)
    · exact ⟨w, List.mem_append.mpr (Or.inl hw), h⟩
    · exact ⟨w, List.mem_append.mpr (Or.inr hw), h⟩

def Framed (st : St) (r : Ctl × Locals × St) : Prop :=
  ∃ ext, r.2.2.log = st.log ++ ext ∧ ∀ a, ¬ Covered ext a → r.2.2.mem a = st.mem a

theorem framed_refl (c : Ctl) (L : Locals) (st : St) : Framed st (c, L, st) :=
  ⟨[], by simp, fun _ _ => rfl⟩

theorem framed_trans {st : St} {c1 : Ctl} {L1 : Locals} {s1 : St} {r : Ctl × Locals × St}
    (h1 : Framed st (c1, L1, s1)) (h2 : Framed s1 r) : Framed st r := by
  obtain ⟨e1, hl1, hm1⟩ := h1
  obtain ⟨e2, hl2, hm2⟩ := h2
  refine ⟨e1 ++ e2, by rw [hl2, hl1, List.append_assoc], ?_⟩
  intro a ha
  have := covered_append (w1 := e1) (w2 := e2) (a := a)
  rw [hm2 a (fun h => ha (this.mpr (Or.inr h))), hm1 a (fun h => ha (this.mpr (Or.inl h)))]

theorem framed_one (st : St) (c : Ctl) (L : Locals) (m' : Mem) (w : Access) (hw : w.write = true)
    (h : ∀ a, ¬ (w.addr ≤ a ∧ a < w.addr + w.width) → m' a = st.mem a) (pre : List Access) :
    Framed st (c, L, ⟨m', st.log ++ (pre ++ [w])⟩) :=
  ⟨pre ++ [w], rfl, fun a ha => h a fun hin => ha ⟨w, by simp, hw, hin.1, hin.2⟩⟩

theorem exec_frame (env : Env) : ∀ (f : Nat) (s : Stmt) (L : Locals) (st : St) (r : Ctl × Locals × St),
    exec env f s L st = some r → Framed st r := by
  intro f
  induction f with
  | zero => intro s L st r h; simp [exec] at h
  | succ f ih =>
    intro s L st r h
    cases s with
    | skip => cases h; exact framed_refl ..
    | set i e =>
      simp only [exec, Option.map_eq_some_iff] at h
      obtain ⟨v, -, rfl⟩ := h
      exact framed_refl ..
    | seq a b =>
      rw [exec, Option.bind_eq_some_iff] at h
      obtain ⟨⟨c, L1, s1⟩, ha, h⟩ := h
      cases c with
      | next => exact framed_trans (ih _ _ _ _ ha) (ih _ _ _ _ h)
      | ret v => cases h; exact ih _ _ _ _ ha
    | ite c a b =>
      rw [exec, Option.bind_eq_some_iff] at h
      obtain ⟨x, -, h⟩ := h
      split at h <;> exact ih _ _ _ _ h
    | «while» c b =>
      rw [exec, Option.bind_eq_some_iff] at h
      obtain ⟨x, -, h⟩ := h
      split at h
      · cases h; exact framed_refl ..
      · rw [Option.bind_eq_some_iff] at h
        obtain ⟨⟨c', L1, s1⟩, hb, h⟩ := h
        cases c' with
        | next => exact framed_trans (ih _ _ _ _ hb) (ih _ _ _ _ h)
        | ret v => cases h; exact ih _ _ _ _ hb
    | loadObj i k a =>
      simp only [exec, Option.bind_eq_some_iff] at h
      obtain ⟨p, -, h⟩ := h
      split at h
      · cases h
      · cases h; exact ⟨[⟨p, k, 1, false⟩], rfl, fun _ _ => rfl⟩
    | storeObj a k i =>
      simp only [exec, Option.bind_eq_some_iff] at h
      obtain ⟨p, -, h⟩ := h
      split at h
      · cases h
      · cases h
        exact framed_one st .next L _ ⟨p, k, 1, true⟩ rfl (fun a ha' => store_outside _ _ _ _ _ _ ha') []
    | storeVal a k e =>
      simp only [exec, Option.bind_eq_some_iff] at h
      obtain ⟨p, -, v, -, h⟩ := h
      split at h
      · cases h
      · cases h
        exact framed_one st .next L _ ⟨p, k, k, true⟩ rfl (fun a ha' => store_outside _ _ _ _ _ _ ha') []
    | copy d sr n =>
      simp only [exec, Option.bind_eq_some_iff] at h
      obtain ⟨pd, -, ps, -, k, -, h⟩ := h
      split at h
      · cases h
      · split at h
        · cases h
        · cases h
          exact framed_one st .next L _ ⟨pd, k, 1, true⟩ rfl
            (fun a (ha' : ¬ (pd ≤ a ∧ a < pd + k)) => Mem.write_outside _ _ _ _ (by rw [read_length]; omega))
            [⟨ps, k, 1, false⟩]
    | fill d v n =>
      simp only [exec, Option.bind_eq_some_iff] at h
      obtain ⟨pd, -, x, -, k, -, h⟩ := h
      split at h
      · cases h
      · cases h
        exact framed_one st .next L (st.mem.write pd (List.replicate k (Fin.ofNat 256 x))) ⟨pd, k, 1, true⟩ rfl
          (fun a (ha' : ¬ (pd ≤ a ∧ a < pd + k)) =>
            Mem.write_outside _ _ _ _ (by rw [List.length_replicate]; omega)) []
    | call dst fn args =>
      rw [exec, Option.bind_eq_some_iff] at h
      obtain ⟨vs, -, h⟩ := h
      split at h
      · rw [Option.map_eq_some_iff] at h
        obtain ⟨⟨c, L1, s1⟩, hb, rfl⟩ := h
        have hf : Framed st (c, L1, s1) := ih _ _ _ _ hb
        cases c <;> exact hf
      · rw [Option.map_eq_some_iff] at h
        obtain ⟨v, -, rfl⟩ := h
        exact framed_refl ..
    | ret e =>
      cases e with
      | none => cases h; exact framed_refl ..
      | some e =>
        simp only [exec, Option.map_eq_some_iff] at h
        obtain ⟨v, -, rfl⟩ := h
        exact framed_refl ..

theorem callFn_frame (env : Env) (f : Nat) (fn : String) (args : List Nat) (st : St) (v : Nat) (st' : St)
    (h : callFn env f fn args st = some (v, st')) :
    ∃ ext, st'.log = st.log ++ ext ∧ ∀ a, ¬ Covered ext a → st'.mem a = st.mem a := by
  unfold callFn at h
  split at h
  · obtain ⟨⟨c, L1, s1⟩, hb, h⟩ := Option.map_eq_some_iff.mp h
    obtain ⟨ext, hl, hm⟩ := exec_frame env _ _ _ _ _ hb
    cases c
    · cases h; exact ⟨ext, hl, hm⟩
    · cases h; exact ⟨ext, hl, hm⟩
  · cases h

end O1722.C
