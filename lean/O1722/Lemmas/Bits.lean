/-
  The wire view bit by bit (`Nat.testBit`).  `specSet_bits` and `specSet_frame` are the Spec-level half of C02.
-/
import O1722.Model.Utils

namespace O1722

theorem toNat_testBit_bool (c : Bool) (j : Nat) : c.toNat.testBit j = (decide (j = 0) && c) := by
  cases c <;> cases j <;> simp [Nat.testBit_add_one]

theorem and_two_pow_eq (x i : Nat) : x &&& 2 ^ i = if x.testBit i then 2 ^ i else 0 := by
  apply Nat.eq_of_testBit_eq; intro k
  rw [Nat.testBit_and, Nat.testBit_two_pow]
  by_cases h : i = k
  · subst h; cases hx : x.testBit i <;> simp
  · cases hx : x.testBit i <;> simp [h]

theorem two_mul_add_bool_testBit (x : Nat) (c : Bool) (j : Nat) :
    (2 * x + c.toNat).testBit j = if j = 0 then c else x.testBit (j - 1) := by
  have h : c.toNat < 2 ^ 1 := by cases c <;> simp
  have := Nat.testBit_two_pow_mul_add x h j
  simp only [Nat.pow_one] at this
  rw [this]
  cases j with
  | zero => cases c <;> simp
  | succ j => simp

/-- The Horner sum behind both `specGet` and `byteOfBits`. -/
def msbFirst (f : Nat → Bool) : Nat → Nat
  | 0 => 0
  | w + 1 => 2 * msbFirst f w + (f w).toNat

theorem msbFirst_testBit (f : Nat → Bool) (w j : Nat) :
    (msbFirst f w).testBit j = (decide (j < w) && f (w - 1 - j)) := by
  induction w generalizing j with
  | zero => simp [msbFirst]
  | succ w ih =>
    rw [msbFirst, two_mul_add_bool_testBit]
    cases j with
    | zero => simp
    | succ j =>
      rw [if_neg (Nat.succ_ne_zero j), Nat.add_sub_cancel, ih, Nat.add_sub_cancel,
        show w - (j + 1) = w - 1 - j by omega]
      simp

theorem specGet_eq_msbFirst (m : Mem) (pdu s w : Nat) :
    specGet m pdu s w = msbFirst (fun i => wireBit m pdu (s + i)) w := by
  induction w with
  | zero => rfl
  | succ w ih => rw [specGet, msbFirst, ih]

theorem specGet_testBit (m : Mem) (pdu s w j : Nat) :
    (specGet m pdu s w).testBit j = (decide (j < w) && wireBit m pdu (s + w - 1 - j)) := by
  rw [specGet_eq_msbFirst, msbFirst_testBit]
  by_cases h : j < w
  · rw [show s + (w - 1 - j) = s + w - 1 - j by omega]
  · simp [h]

theorem specGet_lt (m : Mem) (pdu s w : Nat) : specGet m pdu s w < 2 ^ w := by
  apply Nat.lt_pow_two_of_testBit
  intro i hi
  rw [specGet_testBit]
  have : ¬ i < w := by omega
  simp [this]

theorem specGet_congr (m₁ m₂ : Mem) (pdu s w : Nat)
    (h : ∀ i, s ≤ i → i < s + w → wireBit m₁ pdu i = wireBit m₂ pdu i) :
    specGet m₁ pdu s w = specGet m₂ pdu s w := by
  apply Nat.eq_of_testBit_eq
  intro j
  rw [specGet_testBit, specGet_testBit]
  by_cases hj : j < w
  · simp only [hj, decide_true, Bool.true_and]
    exact h _ (by omega) (by omega)
  · simp [hj]

theorem specGet_congr_bytes (m₁ m₂ : Mem) (pdu s w : Nat)
    (h : ∀ a, pdu + s / 8 ≤ a → a < pdu + (s + w + 7) / 8 → m₁ a = m₂ a) :
    specGet m₁ pdu s w = specGet m₂ pdu s w :=
  specGet_congr m₁ m₂ pdu s w fun i h1 h2 => by rw [wireBit, wireBit, h _ (by omega) (by omega)]

theorem byte_ext (a b : Byte) (h : ∀ j, j < 8 → a.val.testBit j = b.val.testBit j) : a = b := by
  apply Fin.ext
  apply Nat.eq_of_testBit_eq
  intro j
  by_cases hj : j < 8
  · exact h j hj
  · have h8 : 256 ≤ 2 ^ j := by
      rw [show (256 : Nat) = 2 ^ 8 from rfl]; exact Nat.pow_le_pow_right (by decide) (by omega)
    rw [Nat.testBit_lt_two_pow (Nat.lt_of_lt_of_le a.isLt h8), Nat.testBit_lt_two_pow (Nat.lt_of_lt_of_le b.isLt h8)]

theorem wireBit_byte (m : Mem) (pdu a j : Nat) (ha : pdu ≤ a) (hj : j < 8) :
    wireBit m pdu (8 * (a - pdu) + (7 - j)) = (m a).val.testBit j := by
  unfold wireBit
  rw [show pdu + (8 * (a - pdu) + (7 - j)) / 8 = a by omega,
    show 7 - (8 * (a - pdu) + (7 - j)) % 8 = j by omega]

theorem mem_ext_wire (m₁ m₂ : Mem) (pdu : Nat) (hb : ∀ a, a < pdu → m₁ a = m₂ a)
    (hw : ∀ i, wireBit m₁ pdu i = wireBit m₂ pdu i) : m₁ = m₂ := by
  funext a
  by_cases h : a < pdu
  · exact hb a h
  · apply byte_ext; intro j hj
    rw [← wireBit_byte m₁ pdu a j (by omega) hj, ← wireBit_byte m₂ pdu a j (by omega) hj, hw]

theorem byteOfBits_testBit (f : Nat → Bool) (j : Nat) (hj : j < 8) :
    (byteOfBits f).val.testBit j = f (7 - j) := by
  have : (byteOfBits f).val = msbFirst f 8 := by
    show (f 0).toNat * 128 + (f 1).toNat * 64 + (f 2).toNat * 32 + (f 3).toNat * 16
      + (f 4).toNat * 8 + (f 5).toNat * 4 + (f 6).toNat * 2 + (f 7).toNat = _
    simp only [msbFirst]; omega
  rw [this, msbFirst_testBit, decide_eq_true hj]; rfl

theorem specSet_bits (m : Mem) (pdu s w v i : Nat) :
    wireBit (specSet m pdu s w v) pdu i
      = if s ≤ i ∧ i < s + w then v.testBit (s + w - 1 - i) else wireBit m pdu i := by
  unfold wireBit specSet
  simp only
  rw [if_pos (by omega), byteOfBits_testBit _ _ (by omega)]
  have e1 : 8 * (pdu + i / 8 - pdu) + (7 - (7 - i % 8)) = i := by omega
  have e2 : 7 - (7 - (7 - i % 8)) = 7 - i % 8 := by omega
  simp only [e1, e2]

theorem specSet_below (m : Mem) (pdu s w v a : Nat) (h : a < pdu) : specSet m pdu s w v a = m a := by
  unfold specSet; simp only; rw [if_neg (by omega)]

theorem specSet_frame (m : Mem) (pdu s w v a : Nat)
    (h : a < pdu + s / 8 ∨ pdu + (s + w + 7) / 8 ≤ a) : specSet m pdu s w v a = m a := by
  by_cases ha : a < pdu
  · exact specSet_below m pdu s w v a ha
  · apply byte_ext; intro j hj
    rw [← wireBit_byte _ pdu a j (by omega) hj, ← wireBit_byte m pdu a j (by omega) hj, specSet_bits,
      if_neg (by omega)]

theorem specSet_pointwise (m₁ m₂ : Mem) (pdu s w v a : Nat) (h : m₁ a = m₂ a) :
    specSet m₁ pdu s w v a = specSet m₂ pdu s w v a := by
  unfold specSet
  simp only [h]

theorem beN_testBit (m : Mem) (a n j : Nat) :
    (beN m a n).testBit j
      = (decide (j < 8 * n) && (m (a + (n - 1 - j / 8))).val.testBit (j % 8)) := by
  induction n generalizing j with
  | zero => simp [beN]
  | succ n ih =>
    have hb : (m (a + n)).val < 2 ^ 8 := (m (a + n)).isLt
    simp only [beN, show (256 : Nat) = 2 ^ 8 from rfl]
    rw [Nat.testBit_two_pow_mul_add (beN m a n) hb j]
    by_cases hj : j < 8
    · rw [if_pos hj, show n + 1 - 1 - j / 8 = n by omega, show j % 8 = j by omega,
        decide_eq_true (by omega : j < 8 * (n + 1)), Bool.true_and]
    · -- byte `j / 8 - 1` of the first `n`
      rw [if_neg hj, ih, show n - 1 - (j - 8) / 8 = n + 1 - 1 - j / 8 by omega, show (j - 8) % 8 = j % 8 by omega]
      exact congrArg (· && _) (decide_eq_decide.mpr (by omega))

theorem leN_testBit (m : Mem) (a n j : Nat) :
    (leN m a n).testBit j
      = (decide (j < 8 * n) && (m (a + j / 8)).val.testBit (j % 8)) := by
  induction n generalizing a j with
  | zero => simp [leN]
  | succ n ih =>
    have hb : (m a).val < 2 ^ 8 := (m a).isLt
    simp only [leN, show (256 : Nat) = 2 ^ 8 from rfl]
    rw [Nat.add_comm, Nat.testBit_two_pow_mul_add (leN m (a + 1) n) hb j]
    by_cases hj : j < 8
    · rw [if_pos hj, show j / 8 = 0 by omega, show j % 8 = j by omega,
        decide_eq_true (by omega : j < 8 * (n + 1)), Bool.true_and]; rfl
    · rw [if_neg hj, ih, show a + 1 + (j - 8) / 8 = a + j / 8 by omega, show (j - 8) % 8 = j % 8 by omega]
      exact congrArg (· && _) (decide_eq_decide.mpr (by omega))

theorem beN_congr (m₁ m₂ : Mem) (a k : Nat) (h : ∀ x, a ≤ x → x < a + k → m₁ x = m₂ x) :
    beN m₁ a k = beN m₂ a k := by
  induction k with
  | zero => rfl
  | succ k ih => simp only [beN, h (a + k) (by omega) (by omega), ih fun x h1 h2 => h x h1 (by omega)]

theorem beN_lt (m : Mem) (a n : Nat) : beN m a n < 2 ^ (8 * n) := by
  apply Nat.lt_pow_two_of_testBit
  intro i hi
  rw [beN_testBit]
  have : ¬ i < 8 * n := by omega
  simp [this]

theorem leN_lt (m : Mem) (a n : Nat) : leN m a n < 2 ^ (8 * n) := by
  apply Nat.lt_pow_two_of_testBit
  intro i hi
  rw [leN_testBit, decide_eq_false (by omega), Bool.false_and]

theorem load_lt (e : Endian) (k : Nat) (m : Mem) (a : Nat) : load e k m a < 2 ^ (8 * k) := by
  cases e
  · exact leN_lt m a k
  · exact beN_lt m a k

theorem beN_eq_specGet (m : Mem) (pdu k n : Nat) :
    beN m (pdu + k) n = specGet m pdu (8 * k) (8 * n) := by
  apply Nat.eq_of_testBit_eq
  intro j
  rw [beN_testBit, specGet_testBit]
  by_cases hj : j < 8 * n
  · have e1 : pdu + k + (n - 1 - j / 8) = pdu + (8 * k + 8 * n - 1 - j) / 8 := by omega
    have e2 : j % 8 = 7 - (8 * k + 8 * n - 1 - j) % 8 := by omega
    simp [hj, wireBit, e1, e2]
  · simp [hj]

theorem be32_testBit_wire (m : Mem) (pdu q j : Nat) :
    (beN m (pdu + q * 4) 4).testBit j = (decide (j < 32) && wireBit m pdu (32 * q + 31 - j)) := by
  rw [beN_eq_specGet, specGet_testBit, show 8 * (q * 4) + 8 * 4 - 1 - j = 32 * q + 31 - j by omega]

end O1722
