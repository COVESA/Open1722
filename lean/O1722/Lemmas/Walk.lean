/-
  What the loops of `Avtp_GetField` and `Avtp_SetField` share; one loop rule, `walk_spec`, serves both.
-/
import O1722.Model.Utils

namespace O1722

/-- The descriptors the generic reader/writer handles: what `IsFieldDescriptorValid`
    demands (offset 0..31, width 0..64) plus "the field ends at or before quadlet 255"
    (the quadlet index is a `uint8_t`; a longer field would wrap to quadlet 0). -/
def Desc.Valid (d : Desc) : Prop :=
  d.offset ≤ 31 ∧ d.bits ≤ 64 ∧ d.quadlet + (d.offset + d.bits + 31) / 32 ≤ 256

instance (d : Desc) : Decidable d.Valid := by unfold Desc.Valid; exact inferInstance

def Desc.start (d : Desc) : Nat := 32 * d.quadlet + d.offset

def Desc.quadlets (d : Desc) : Nat := (d.offset + d.bits + 31) / 32

/-- The conversions to `uint8_t` in `quadletBits` and `quadletShift` never change the value:
    both are at most 32. -/
theorem quadletBits_eq (d : Desc) (pb : Nat) :
    quadletBits d pb = if pb = 0 then min (32 - d.offset) d.bits else min 32 (d.bits - pb) := by
  unfold quadletBits; split <;> omega

theorem quadletShift_eq (d : Desc) (pb qb : Nat) :
    quadletShift d pb qb = if pb = 0 then 32 - qb - d.offset else 32 - qb := by
  unfold quadletShift; split <;> omega

theorem quadletMask_testBit (qbits qshift i : Nat) (h : qshift + qbits ≤ 32) :
    (quadletMask qbits qshift).testBit i = decide (qshift ≤ i ∧ i < qshift + qbits) := by
  unfold quadletMask
  rw [Nat.one_shiftLeft]
  simp only [Nat.testBit_mod_two_pow, Nat.testBit_shiftLeft, Nat.testBit_two_pow_sub_one, ← Bool.decide_and]
  exact decide_eq_decide.mpr (by omega)

theorem chunk_geom (d : Desc) (hd : d.Valid) (qo pb : Nat) (hlt : pb < d.bits)
    (pos : (pb = 0 ∧ qo = 0) ∨ (0 < pb ∧ d.offset + pb = 32 * qo) ∨ pb = d.bits) :
    let qb := quadletBits d pb
    let qs := quadletShift d pb qb
    0 < qb ∧ pb + qb ≤ d.bits ∧ qs + qb ≤ 32 ∧ (d.quadlet + qo) % 256 = d.quadlet + qo
      ∧ (pb + qb) % 256 = pb + qb
      ∧ 32 * (d.quadlet + qo) + 32 = d.start + pb + qb + qs := by
  obtain ⟨ho, hb, hq⟩ := hd
  simp only [quadletBits_eq, quadletShift_eq, Desc.start]
  split <;> omega

/-- Between iterations the next chunk is the first one, or starts on a quadlet boundary, or there is none. -/
def PosInv (d : Desc) (qo pb : Nat) : Prop :=
  pb ≤ d.bits ∧ ((pb = 0 ∧ qo = 0) ∨ (0 < pb ∧ d.offset + pb = 32 * qo) ∨ pb = d.bits)

theorem posInv_step (d : Desc) (hd : d.Valid) (qo pb : Nat) (h : PosInv d qo pb) (hlt : pb < d.bits) :
    PosInv d ((qo + 1) % 256) ((pb + quadletBits d pb) % 256)
      ∧ (d.quadlet + qo) % 256 = d.quadlet + qo ∧ qo + 1 ≤ d.quadlets := by
  obtain ⟨ho, hb, hq⟩ := hd
  obtain ⟨hle, pos⟩ := h
  simp only [PosInv, quadletBits_eq, Desc.quadlets]
  split <;> omega

theorem walk_variant (d : Desc) (hd : d.Valid) (qo pb k : Nat) (h : PosInv d qo pb) (hlt : pb < d.bits)
    (hk : d.bits - pb + (if pb = 0 then d.offset else 0) ≤ 32 * (k + 1)) :
    d.bits - (pb + quadletBits d pb) % 256 + (if (pb + quadletBits d pb) % 256 = 0 then d.offset else 0)
      ≤ 32 * k := by
  obtain ⟨ho, hb, hq⟩ := hd
  obtain ⟨hle, pos⟩ := h
  rw [quadletBits_eq]
  split at hk <;> rename_i h0
  · rw [if_pos h0, if_neg (by omega)]; omega
  · rw [if_neg h0, if_neg (by omega)]; omega

theorem posInv_init (d : Desc) : PosInv d 0 0 := ⟨Nat.zero_le _, Or.inl ⟨rfl, rfl⟩⟩

/-- The control skeleton the two loops of Utils.c share: `step qo pb` is one iteration's
    effect on the rest of the state. -/
def walk {σ : Type} (d : Desc) (step : Nat → Nat → σ → σ) : Nat → Nat → Nat → σ → σ
  | 0, _, _, s => s
  | fuel + 1, qo, pb, s =>
    if pb < d.bits then
      walk d step fuel ((qo + 1) % 256) ((pb + quadletBits d pb) % 256) (step qo pb s)
    else s

/-- One iteration of either loop is the loop itself run on one unit of fuel. -/
def getStep (e : Endian) (d : Desc) (m : Mem) (pdu qo pb : Nat) (s : Nat × List Access) :=
  getLoop e d m pdu 1 qo pb s.1 s.2

def setStep (e : Endian) (d : Desc) (pdu v qo pb : Nat) (s : Mem × List Access) :=
  setLoop e d pdu v 1 qo pb s.1 s.2

theorem getLoop_eq_walk (e : Endian) (d : Desc) (m : Mem) (pdu : Nat) :
    ∀ fuel qo pb res log,
      getLoop e d m pdu fuel qo pb res log = walk d (getStep e d m pdu) fuel qo pb (res, log) := by
  intro fuel
  induction fuel with
  | zero => intros; rfl
  | succ fuel ih =>
    intro qo pb res log
    rw [getLoop, walk, ih]
    split
    · rw [getStep, getLoop, if_pos ‹_›]; rfl
    · rfl

theorem setLoop_eq_walk (e : Endian) (d : Desc) (pdu v : Nat) :
    ∀ fuel qo pb m log,
      setLoop e d pdu v fuel qo pb m log = walk d (setStep e d pdu v) fuel qo pb (m, log) := by
  intro fuel
  induction fuel with
  | zero => intros; rfl
  | succ fuel ih =>
    intro qo pb m log
    rw [setLoop, walk, ih]
    split
    · rw [setStep, setLoop, if_pos ‹_›]; rfl
    · rfl

section
variable {σ : Type} (d : Desc) (step : Nat → Nat → σ → σ)

theorem walk_always (P : σ → Prop) (hstep : ∀ qo pb s, pb < d.bits → P s → P (step qo pb s)) :
    ∀ fuel qo pb s, P s → P (walk d step fuel qo pb s) := by
  intro fuel
  induction fuel with
  | zero => intro _ _ s h; exact h
  | succ fuel ih =>
    intro qo pb s h
    rw [walk]
    split
    · exact ih _ _ _ (hstep qo pb s ‹_› h)
    · exact h

theorem walk_spec (hd : d.Valid) (P : Nat → σ → Prop)
    (hstep : ∀ qo pb s, PosInv d qo pb → pb < d.bits → P pb s →
      P (pb + quadletBits d pb) (step qo pb s)) (s : σ) (h : P 0 s) :
    P d.bits (walk d step loopFuel 0 0 s) := by
  -- `fuel` iterations cover a field whose remaining bits (plus, before the first iteration,
  -- its offset) are at most `32 * fuel`
  have key : ∀ fuel qo pb s, PosInv d qo pb →
      (d.bits - pb) + (if pb = 0 then d.offset else 0) ≤ 32 * fuel →
      P pb s → P d.bits (walk d step fuel qo pb s) := by
    intro fuel
    induction fuel with
    | zero =>
      intro qo pb s inv hf h
      have : pb = d.bits := by have := inv.1; split at hf <;> omega
      rw [walk, ← this]; exact h
    | succ fuel ih =>
      intro qo pb s inv hf h
      rw [walk]
      by_cases hlt : pb < d.bits
      · rw [if_pos hlt]
        obtain ⟨_, _, _, _, g5, _⟩ := chunk_geom d hd qo pb hlt inv.2
        have h' := hstep qo pb s inv hlt h
        rw [← g5] at h'
        exact ih _ _ _ (posInv_step d hd qo pb inv hlt).1 (walk_variant d hd qo pb fuel inv hlt hf) h'
      · rw [if_neg hlt]
        have : pb = d.bits := by have := inv.1; omega
        rw [← this]; exact h
  apply key loopFuel 0 0 s (posInv_init d) _ h
  have := hd.1; have := hd.2.1
  rw [if_pos rfl, loopFuel]; omega

end

end O1722
