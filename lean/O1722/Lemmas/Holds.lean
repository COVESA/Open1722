/-
  The `Vss_ReadBeN` / `Vss_WriteBeN` family of Vss.c, on integers, length-prefixed bytes and element
  arrays, as `holds` and `Mem.write` of big-endian byte lists.
-/
import O1722.Lemmas.Byteorder
import O1722.Model.Vss

namespace O1722

theorem beN_of_holds (m : Mem) (a k n : Nat) (h : holds m a (bytesBE k n)) :
    beN m a k = n % 2 ^ (8 * k) := by
  apply Nat.eq_of_testBit_eq; intro j
  rw [beN_testBit, Nat.testBit_mod_two_pow]
  by_cases hj : j < 8 * k
  · have hi : k - 1 - j / 8 < (bytesBE k n).length := by rw [bytesBE_length]; omega
    rw [h _ hi, bytesBE_get, Fin.ofNat_256_testBit, div_256_pow_testBit]
    have e1 : j % 8 + 8 * (k - 1 - (k - 1 - j / 8)) = j := by omega
    have e2 : j % 8 < 8 := by omega
    rw [e1]; simp [hj, e2]
  · simp [hj]

theorem bytesBE_mod (k n : Nat) : bytesBE k (n % 2 ^ (8 * k)) = bytesBE k n :=
  bytesBE_testBit_ext k _ _ fun j hj => by rw [Nat.testBit_mod_two_pow, decide_eq_true hj, Bool.true_and]

theorem rdBe_eq (e : Endian) (k : Nat) (m : Mem) (a : Nat) :
    rdBe e k m a = if k = 1 ∨ k = 2 ∨ k = 4 ∨ k = 8 then beN m a k else 0 := by
  unfold rdBe
  split
  · simp [beN]
  · exact beCpu16_load e m a
  · exact beCpu32_load e m a
  · exact beCpu64_load e m a
  · rename_i h1 h2 h4 h8
    exact (if_neg (fun h => h.elim h1 (·.elim h2 (·.elim h4 h8)))).symm

theorem wrBe_eq (e : Endian) (k : Nat) (m : Mem) (a x : Nat) :
    wrBe e k m a x = if k = 1 ∨ k = 2 ∨ k = 4 ∨ k = 8 then m.write a (bytesBE k x) else m := by
  unfold wrBe
  split
  · simp [bytesBE, Mem.write]
  · rw [store_beCpu16, show (2:Nat) ^ 16 = 2 ^ (8 * 2) from rfl, bytesBE_mod]; rfl
  · rw [store_beCpu32, show (2:Nat) ^ 32 = 2 ^ (8 * 4) from rfl, bytesBE_mod]; rfl
  · rw [store_beCpu64, show (2:Nat) ^ 64 = 2 ^ (8 * 8) from rfl, bytesBE_mod]; rfl
  · rename_i h1 h2 h4 h8
    exact (if_neg (fun h => h.elim h1 (·.elim h2 (·.elim h4 h8)))).symm

theorem rdBe_congr (e : Endian) (k : Nat) (m₁ m₂ : Mem) (a : Nat)
    (h : ∀ x, a ≤ x → x < a + k → m₁ x = m₂ x) : rdBe e k m₁ a = rdBe e k m₂ a := by
  rw [rdBe_eq, rdBe_eq, beN_congr m₁ m₂ a k h]

theorem rdBe_of_holds (e : Endian) (k : Nat) (hk : k = 1 ∨ k = 2 ∨ k = 4 ∨ k = 8) (m : Mem) (a n : Nat)
    (h : holds m a (bytesBE k n)) : rdBe e k m a = n % 2 ^ (8 * k) := by
  rw [rdBe_eq, if_pos hk, beN_of_holds m a k n h]

theorem wrBe_eq_write (e : Endian) (k : Nat) (hk : k = 1 ∨ k = 2 ∨ k = 4 ∨ k = 8) (m : Mem) (a x : Nat) :
    wrBe e k m a x = m.write a (bytesBE k x) := by
  rw [wrBe_eq, if_pos hk]

theorem wrBlob (e : Endian) (m : Mem) (a : Nat) (bs : List Byte) (h : bs.length < 2 ^ 16) :
    (wrBe e 2 m a bs.length).write (a + 2) (bs.take (bs.length % 2 ^ 16))
      = m.write a (bytesBE 2 bs.length ++ bs) := by
  rw [wrBe_eq_write e 2 (by simp), Mem.write_append, bytesBE_length, Nat.mod_eq_of_lt h, List.take_length]

theorem rdBlob (e : Endian) (m : Mem) (a : Nat) (bs : List Byte) (h : bs.length < 2 ^ 16)
    (hh : holds m a (bytesBE 2 bs.length ++ bs)) :
    rdBe e 2 m a = bs.length ∧ holds m (a + 2) bs := by
  obtain ⟨h1, h2⟩ := (holds_append m _ _ _).mp hh
  rw [bytesBE_length] at h2
  exact ⟨(rdBe_of_holds e 2 (by simp) m _ _ h1).trans (Nat.mod_eq_of_lt h), h2⟩

theorem flatMap_bytesBE_length (k : Nat) (xs : List Nat) :
    (xs.flatMap (bytesBE k)).length = k * xs.length := by
  induction xs with
  | nil => simp
  | cons x xs ih => simp only [List.flatMap_cons, List.length_append, bytesBE_length, ih, List.length_cons]; rw [Nat.mul_succ]; omega

theorem flatMap_bytesBE_one (xs : List Nat) :
    xs.flatMap (bytesBE 1) = xs.map (Fin.ofNat 256) := by
  induction xs with
  | nil => rfl
  | cons x xs ih =>
    rw [List.flatMap_cons, ih]
    simp [bytesBE]

theorem wrElems_eq_write (e : Endian) (k : Nat) (hk : k = 1 ∨ k = 2 ∨ k = 4 ∨ k = 8) (m : Mem) (a : Nat)
    (xs : List Nat) : wrElems e k m a xs = m.write a (xs.flatMap (bytesBE k)) := by
  induction xs generalizing m a with
  | nil => rfl
  | cons x xs ih =>
    simp only [wrElems, List.flatMap_cons]
    rw [ih, wrBe_eq_write e k hk, Mem.write_append, bytesBE_length]

theorem rdElems_of_holds (e : Endian) (k : Nat) (hk : k = 1 ∨ k = 2 ∨ k = 4 ∨ k = 8) (m : Mem) (a : Nat)
    (xs : List Nat) (hx : ∀ x ∈ xs, x < 2 ^ (8 * k)) (h : holds m a (xs.flatMap (bytesBE k))) :
    rdElems e k m a xs.length = xs := by
  induction xs generalizing a with
  | nil => rfl
  | cons x xs ih =>
    simp only [List.flatMap_cons] at h
    obtain ⟨h1, h2⟩ := (holds_append m a _ _).mp h
    rw [bytesBE_length] at h2
    simp only [List.length_cons, rdElems]
    rw [rdBe_of_holds e k hk m a x h1, Nat.mod_eq_of_lt (hx x (by simp)), ih (a + k) (fun y hy => hx y (by simp [hy])) h2]

end O1722
