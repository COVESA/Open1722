/-
  The loop of `Avtp_SetField` performs the reference write.
-/
import O1722.Lemmas.Byteorder
import O1722.Lemmas.Walk

namespace O1722

theorem rmw_testBit (host part qb qs t : Nat) (h : qs + qb ≤ 32) (ht : t < 32) :
    ((host &&& (quadletMask qb qs ^^^ (2 ^ 32 - 1)))
        ||| (((part <<< qs) % 2 ^ 32) &&& quadletMask qb qs)).testBit t
      = if qs ≤ t ∧ t < qs + qb then part.testBit (t - qs) else host.testBit t := by
  rw [Nat.testBit_or, Nat.testBit_and, Nat.testBit_and, Nat.testBit_xor,
    Nat.testBit_two_pow_sub_one, Nat.testBit_mod_two_pow, Nat.testBit_shiftLeft,
    quadletMask_testBit _ _ _ h]
  by_cases hm : qs ≤ t ∧ t < qs + qb <;> simp [hm, ht]

theorem setLoop_eq_specSet (e : Endian) (d : Desc) (hd : d.Valid) (m : Mem) (pdu v : Nat) :
    (setLoop e d pdu v loopFuel 0 0 m []).1 = specSet m pdu d.start d.bits v := by
  rw [setLoop_eq_walk]
  -- the first `pb` wire bits of the field are written, nothing else has changed
  have h := walk_spec d (setStep e d pdu v) hd
    (fun pb s => (∀ i, wireBit s.1 pdu i
        = if d.start ≤ i ∧ i < d.start + pb then v.testBit (d.start + d.bits - 1 - i)
          else wireBit m pdu i) ∧ ∀ a, a < pdu → s.1 a = m a)
    ?_ (m, []) ⟨fun i => by rw [if_neg (by omega)], fun _ _ => rfl⟩
  · apply mem_ext_wire _ _ pdu
    · intro a ha; rw [h.2 a ha, specSet_below _ _ _ _ _ _ ha]
    · intro i; rw [h.1, specSet_bits]
  · intro qo pb s inv hlt ⟨hbits, hbelow⟩
    obtain ⟨g1, g2, g3, g4, _, g6⟩ := chunk_geom d hd qo pb hlt inv.2
    simp only [setStep, setLoop, if_pos hlt]
    rw [store_beCpu32, beCpu32_load, g4, write_bytesBE_eq_specSet]
    refine ⟨fun i => ?_, fun a ha => (specSet_below _ _ _ _ _ _ ha).trans (hbelow a ha)⟩
    rw [specSet_bits]
    by_cases hc : d.start + pb ≤ i ∧ i < d.start + (pb + quadletBits d pb)
    · -- a bit of this iteration's chunk: it comes from `v`
      rw [if_pos (by omega), rmw_testBit _ _ _ _ _ g3 (by omega), if_pos (by omega), if_pos (by omega),
        Nat.testBit_mod_two_pow, Nat.testBit_shiftRight, decide_eq_true (by omega), Bool.true_and]
      congr 1; omega
    · -- any other bit, in this quadlet or not, is as the invariant left it
      have hold : wireBit s.1 pdu i = if d.start ≤ i ∧ i < d.start + (pb + quadletBits d pb)
          then v.testBit (d.start + d.bits - 1 - i) else wireBit m pdu i := by
        rw [hbits]
        by_cases h5 : d.start ≤ i ∧ i < d.start + pb
        · rw [if_pos h5, if_pos (by omega)]
        · rw [if_neg h5, if_neg (by omega)]
      by_cases hq : 32 * (d.quadlet + qo) ≤ i ∧ i < 32 * (d.quadlet + qo) + 32
      · rw [if_pos (by omega), rmw_testBit _ _ _ _ _ g3 (by omega), if_neg (by omega), be32_testBit_wire,
          decide_eq_true (by omega), Bool.true_and, ← hold]
        congr 1; omega
      · rw [if_neg (by omega), hold]

end O1722
