/-
  Algebra of `Mem.write` / `Mem.read` and of `bytesBE` / `bytesLE`; `holds m a bs`: memory holds these bytes
  at this address.
-/
import O1722.Lemmas.Bits

namespace O1722

theorem Mem.write_outside (m : Mem) (a : Nat) (bs : List Byte) (x : Nat)
    (h : x < a ∨ a + bs.length ≤ x) : (m.write a bs) x = m x := by
  rw [Mem.write_apply]
  have : ¬ (a ≤ x ∧ x < a + bs.length) := by omega
  rw [dif_neg this]

theorem Mem.write_pointwise (m₁ m₂ : Mem) (a : Nat) (bs : List Byte) (x : Nat)
    (h : (a ≤ x ∧ x < a + bs.length) ∨ m₁ x = m₂ x) : m₁.write a bs x = m₂.write a bs x := by
  rw [Mem.write_apply, Mem.write_apply]
  split
  · rfl
  · exact h.resolve_left ‹_›

theorem Mem.write_append (m : Mem) (a : Nat) (xs ys : List Byte) :
    m.write a (xs ++ ys) = (m.write a xs).write (a + xs.length) ys := by
  induction xs generalizing m a with
  | nil => simp [Mem.write]
  | cons x xs ih =>
    simp only [List.cons_append, Mem.write, List.length_cons]
    rw [ih]
    congr 1; omega

theorem zeroFill_zero (m : Mem) (p : Nat) : zeroFill m p 0 = m := by
  funext a; unfold zeroFill; rw [if_neg (by omega)]

theorem write_replicate_zero (m : Mem) (a k : Nat) :
    m.write a (List.replicate k (0 : Byte)) = zeroFill m a k := by
  funext x
  rw [Mem.write_apply]
  unfold zeroFill
  by_cases h : a ≤ x ∧ x < a + k
  · have h' : a ≤ x ∧ x < a + (List.replicate k (0 : Byte)).length := by simpa using h
    rw [dif_pos h', if_pos h]; simp
  · have h' : ¬ (a ≤ x ∧ x < a + (List.replicate k (0 : Byte)).length) := by simpa using h
    rw [dif_neg h', if_neg h]

theorem bytesBE_length (k x : Nat) : (bytesBE k x).length = k := by
  induction k with
  | zero => rfl
  | succ k ih => simp [bytesBE, ih]

theorem bytesLE_length (k x : Nat) : (bytesLE k x).length = k := by
  induction k generalizing x with
  | zero => rfl
  | succ k ih => simp [bytesLE, ih]

theorem store_outside (e : Endian) (k : Nat) (m : Mem) (p x a : Nat) (h : ¬ (p ≤ a ∧ a < p + k)) :
    (store e k m p x) a = m a := by
  cases e
  · exact Mem.write_outside m p _ a (by rw [bytesLE_length]; omega)
  · exact Mem.write_outside m p _ a (by rw [bytesBE_length]; omega)

theorem bytesBE_get (k x i : Nat) (h : i < (bytesBE k x).length) :
    (bytesBE k x)[i] = Fin.ofNat 256 (x / 256 ^ (k - 1 - i)) := by
  induction k generalizing i with
  | zero => simp [bytesBE] at h
  | succ k ih =>
    cases i with
    | zero => simp [bytesBE]
    | succ i =>
      simp only [bytesBE, List.getElem_cons_succ]
      rw [ih]
      have : k + 1 - 1 - (i + 1) = k - 1 - i := by omega
      rw [this]

theorem bytesLE_get (k x i : Nat) (h : i < (bytesLE k x).length) :
    (bytesLE k x)[i] = Fin.ofNat 256 (x / 256 ^ i) := by
  induction k generalizing i x with
  | zero => simp [bytesLE] at h
  | succ k ih =>
    cases i with
    | zero => simp [bytesLE]
    | succ i =>
      simp only [bytesLE, List.getElem_cons_succ]
      rw [ih]
      rw [Nat.pow_succ, Nat.mul_comm, Nat.div_div_eq_div_mul]

theorem Fin.ofNat_256_testBit (x j : Nat) :
    (Fin.ofNat 256 x).val.testBit j = (decide (j < 8) && x.testBit j) := by
  show (x % 256).testBit j = _
  rw [show (256 : Nat) = 2 ^ 8 from rfl, Nat.testBit_mod_two_pow]

theorem div_256_pow_testBit (x i j : Nat) : (x / 256 ^ i).testBit j = x.testBit (j + 8 * i) := by
  rw [show (256 : Nat) = 2 ^ 8 from rfl, ← Nat.pow_mul, Nat.testBit_div_two_pow]

theorem bytesBE_testBit_ext (k x y : Nat) (h : ∀ j, j < 8 * k → x.testBit j = y.testBit j) :
    bytesBE k x = bytesBE k y := by
  apply List.ext_getElem
  · simp [bytesBE_length]
  · intro i h1 h2
    rw [bytesBE_get, bytesBE_get]
    have hi : i < k := by simpa [bytesBE_length] using h1
    apply byte_ext; intro j hj
    simp only [Fin.ofNat_256_testBit, div_256_pow_testBit, hj, decide_true, Bool.true_and]
    exact h _ (by omega)

theorem write_bytesBE_eq_specSet (m : Mem) (pdu k n x : Nat) :
    m.write (pdu + k) (bytesBE n x) = specSet m pdu (8 * k) (8 * n) x := by
  apply mem_ext_wire _ _ pdu
  · intro a ha; rw [Mem.write_outside _ _ _ _ (Or.inl (by omega)), specSet_below _ _ _ _ _ _ ha]
  · intro i
    rw [specSet_bits]
    unfold wireBit
    rw [Mem.write_apply]
    simp only [bytesBE_length]
    by_cases h : 8 * k ≤ i ∧ i < 8 * k + 8 * n
    · rw [dif_pos (by omega), if_pos h, bytesBE_get, Fin.ofNat_256_testBit, div_256_pow_testBit,
        decide_eq_true (by omega), Bool.true_and]
      congr 1; omega
    · rw [dif_neg (by omega), if_neg h]

theorem read_length (m : Mem) (a n : Nat) : (Mem.read m a n).length = n := by
  induction n generalizing a with
  | zero => rfl
  | succ n ih => simp only [Mem.read, List.length_cons, ih]

theorem read_getElem (m : Mem) (a n i : Nat) (h : i < (Mem.read m a n).length) :
    (Mem.read m a n)[i] = m (a + i) := by
  induction n generalizing a i with
  | zero => simp [Mem.read] at h
  | succ n ih =>
    cases i with
    | zero => simp [Mem.read]
    | succ i =>
      simp only [Mem.read, List.getElem_cons_succ]
      rw [ih]; congr 1; omega

theorem read_congr (m₁ m₂ : Mem) (a n : Nat) (h : ∀ x, a ≤ x → x < a + n → m₁ x = m₂ x) :
    Mem.read m₁ a n = Mem.read m₂ a n := by
  induction n generalizing a with
  | zero => rfl
  | succ n ih =>
    simp only [Mem.read]
    rw [h a (Nat.le_refl _) (by omega), ih (a + 1) (fun x h1 h2 => h x (by omega) (by omega))]

theorem eq_write_of_frame_det (F : Mem → Mem) (a len : Nat)
    (hframe : ∀ m x, (x < a ∨ a + len ≤ x) → F m x = m x)
    (hdet : ∀ m₁ m₂ x, a ≤ x → x < a + len → F m₁ x = F m₂ x) :
    ∃ bs : List Byte, bs.length = len ∧ ∀ m, F m = m.write a bs := by
  refine ⟨Mem.read (F fun _ => 0) a len, read_length .., fun m => funext fun x => ?_⟩
  by_cases hx : a ≤ x ∧ x < a + len
  · rw [Mem.write_apply, dif_pos (by rw [read_length]; exact hx), read_getElem, hdet m (fun _ => 0) x hx.1 hx.2]
    congr 1; omega
  · rw [hframe m x (by omega), Mem.write_outside _ _ _ _ (by rw [read_length]; omega)]

def holds (m : Mem) (a : Nat) (bs : List Byte) : Prop :=
  ∀ i (h : i < bs.length), m (a + i) = bs[i]

theorem holds_nil (m : Mem) (a : Nat) : holds m a [] := by intro i h; cases h

theorem holds_write (m : Mem) (a : Nat) (bs : List Byte) : holds (m.write a bs) a bs := by
  intro i h
  rw [Mem.write_apply, dif_pos (by omega)]
  congr 1; omega

theorem holds_append (m : Mem) (a : Nat) (xs ys : List Byte) :
    holds m a (xs ++ ys) ↔ holds m a xs ∧ holds m (a + xs.length) ys := by
  constructor
  · intro h
    constructor
    · intro i hi
      have := h i (by rw [List.length_append]; omega)
      rw [this, List.getElem_append_left hi]
    · intro i hi
      have := h (xs.length + i) (by rw [List.length_append]; omega)
      rw [← Nat.add_assoc] at this
      rw [this, List.getElem_append_right (by omega)]
      congr 1; omega
  · intro ⟨h1, h2⟩ i hi
    by_cases hx : i < xs.length
    · rw [h1 i hx, List.getElem_append_left hx]
    · rw [List.getElem_append_right (by omega)]
      have := h2 (i - xs.length) (by rw [List.length_append] at hi; omega)
      rw [← this]; congr 1; omega

theorem holds_read (M m : Mem) (a n : Nat) :
    holds M a (Mem.read m a n) ↔ ∀ i, i < n → M (a + i) = m (a + i) := by
  unfold holds
  simp only [read_length, read_getElem]

theorem read_of_holds {m : Mem} {a : Nat} {bs : List Byte} (h : holds m a bs) :
    Mem.read m a bs.length = bs :=
  List.ext_getElem (read_length ..) fun i h1 h2 => by rw [read_getElem, h i h2]

end O1722
