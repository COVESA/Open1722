/-
  The loop of `Avtp_GetField` computes the reference read.
-/
import O1722.Lemmas.Byteorder
import O1722.Lemmas.Walk

namespace O1722

theorem chunk_testBit (m : Mem) (pdu qid qbits qshift t : Nat) (h : qshift + qbits ≤ 32) :
    (((beN m (pdu + qid * 4) 4) &&& quadletMask qbits qshift) >>> qshift).testBit t
      = (decide (t < qbits) && wireBit m pdu (32 * qid + 31 - qshift - t)) := by
  rw [Nat.testBit_shiftRight, Nat.testBit_and, be32_testBit_wire, quadletMask_testBit _ _ _ h]
  by_cases ht : t < qbits
  · have a : qshift + t < 32 := by omega
    have c : 32 * qid + 31 - (qshift + t) = 32 * qid + 31 - qshift - t := by omega
    rw [c]; simp [ht, a]
  · simp [ht]

/-- `wb j` is the wire bit that belongs at result bit `j`. -/
theorem step_bits (res part k pb qb W j : Nat) (wb : Nat → Bool)
    (hk : k + qb + pb = W) (hW : W ≤ 64)
    (hres : ∀ j, res.testBit j = (decide (W ≤ j + pb ∧ j < W) && wb j))
    (hpart : ∀ t, part.testBit t = (decide (t < qb) && wb (t + k))) :
    (res ||| (part <<< k) % 2 ^ 64).testBit j
      = (decide (W ≤ j + (pb + qb) ∧ j < W) && wb j) := by
  rw [Nat.testBit_or, hres, Nat.testBit_mod_two_pow, Nat.testBit_shiftLeft, hpart]
  by_cases b : j ≥ k
  · -- `part` contributes the bits `k ≤ j < k + qb`, just below those `res` holds
    rw [Nat.sub_add_cancel b]
    simp only [← Bool.and_assoc, ← Bool.and_or_distrib_right, ← Bool.decide_and, ← Bool.decide_or]
    exact congrArg (· && wb j) (decide_eq_decide.mpr (by omega))
  · simp only [b, decide_false, Bool.false_and, Bool.and_false, Bool.or_false]
    exact congrArg (· && wb j) (decide_eq_decide.mpr (by omega))

theorem getLoop_eq_specGet (e : Endian) (d : Desc) (hd : d.Valid) (m : Mem) (pdu : Nat) :
    (getLoop e d m pdu loopFuel 0 0 0 []).1 = specGet m pdu d.start d.bits := by
  rw [getLoop_eq_walk]
  -- the `pb` bits consumed so far sit in the top `pb` positions of the `d.bits`-wide result
  have h := walk_spec d (getStep e d m pdu) hd
    (fun pb s => ∀ j, s.1.testBit j
      = (decide (d.bits ≤ j + pb ∧ j < d.bits) && wireBit m pdu (d.start + d.bits - 1 - j)))
    ?_ (0, []) ?_
  · apply Nat.eq_of_testBit_eq; intro j
    rw [h, specGet_testBit]
    by_cases hj : j < d.bits <;> simp [hj]
  · intro qo pb s inv hlt hres j
    obtain ⟨_, g2, g3, g4, _, g6⟩ := chunk_geom d hd qo pb hlt inv.2
    obtain ⟨k, hk⟩ : ∃ k, k + quadletBits d pb + pb = d.bits := ⟨d.bits - pb - quadletBits d pb, by omega⟩
    simp only [getStep, getLoop, if_pos hlt]
    rw [beCpu32_load, g4, show d.bits - pb - quadletBits d pb = k by omega]
    apply step_bits s.1 _ k pb (quadletBits d pb) d.bits j
      (fun j => wireBit m pdu (d.start + d.bits - 1 - j)) hk hd.2.1 hres
    intro t
    rw [chunk_testBit _ _ _ _ _ _ g3]
    by_cases ht : t < quadletBits d pb
    · rw [show 32 * (d.quadlet + qo) + 31 - quadletShift d pb (quadletBits d pb) - t
          = d.start + d.bits - 1 - (t + k) by omega]
    · simp [ht]
  · intro j
    rw [decide_eq_false (by omega : ¬ (d.bits ≤ j + 0 ∧ j < d.bits))]; exact Nat.zero_testBit j

end O1722
