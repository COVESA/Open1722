/-
  Every memory access the loops of Utils.c perform lies inside the quadlets that contain the field;
  reads only for the reader.
-/
import O1722.Lemmas.Walk

namespace O1722

def FieldAccess (d : Desc) (pdu : Nat) (a : Access) : Prop :=
  a.width = 4 ∧ a.align = 1 ∧ pdu + 4 * d.quadlet ≤ a.addr ∧
    a.addr + 4 ≤ pdu + 4 * (d.quadlet + d.quadlets)

theorem getFieldLog_cases (e : Endian) (tbl : List Desc) (n : Nat) (m : Mem) (pdu : Option Nat) (i : Nat) :
    getFieldLog e tbl n m pdu i = (0, []) ∨ ∃ p d, pdu = some p ∧ i < n ∧ tbl[i]? = some d ∧
      getFieldLog e tbl n m pdu i = getLoop e d m p loopFuel 0 0 0 [] := by
  cases pdu with
  | none => exact Or.inl rfl
  | some p =>
    by_cases hi : i < n
    · cases hrow : tbl[i]? with
      | none => left; simp only [getFieldLog, hi, if_true, hrow]
      | some d => right; exact ⟨p, d, rfl, hi, rfl, by simp only [getFieldLog, hi, if_true, hrow]⟩
    · left; simp only [getFieldLog, hi, if_false]

theorem setFieldLog_cases (e : Endian) (tbl : List Desc) (n : Nat) (m : Mem) (pdu : Option Nat) (i v : Nat) :
    setFieldLog e tbl n m pdu i v = (m, []) ∨ ∃ p d, pdu = some p ∧ i < n ∧ tbl[i]? = some d ∧
      setFieldLog e tbl n m pdu i v = setLoop e d p (v % 2 ^ 64) loopFuel 0 0 m [] := by
  cases pdu with
  | none => exact Or.inl rfl
  | some p =>
    by_cases hi : i < n
    · cases hrow : tbl[i]? with
      | none => left; simp only [setFieldLog, hi, if_true, hrow]
      | some d => right; exact ⟨p, d, rfl, hi, rfl, by simp only [setFieldLog, hi, if_true, hrow]⟩
    · left; simp only [setFieldLog, hi, if_false]

theorem getFieldLog_accesses (e : Endian) (tbl : List Desc) (n : Nat) (m : Mem) (pdu i : Nat)
    (d : Desc) (hrow : tbl[i]? = some d) (hd : d.Valid) :
    ∀ a ∈ (getFieldLog e tbl n m (some pdu) i).2, FieldAccess d pdu a ∧ a.write = false := by
  rcases getFieldLog_cases e tbl n m (some pdu) i with h | ⟨p, d', hp, _, hrow', h⟩
  · rw [h]; intro a ha; cases ha
  · cases hp; cases hrow.symm.trans hrow'
    rw [h, getLoop_eq_walk]
    refine walk_spec d (getStep e d m pdu) hd
      (fun _ s => ∀ a ∈ s.2, FieldAccess d pdu a ∧ a.write = false) ?_ _ (fun a ha => by cases ha)
    intro qo pb s inv hlt hs a ha
    obtain ⟨_, hq, hle⟩ := posInv_step d hd qo pb inv hlt
    simp only [getStep, getLoop, if_pos hlt] at ha
    rcases List.mem_append.mp ha with h | h
    · exact hs a h
    · rw [List.mem_singleton.mp h, hq]
      refine ⟨⟨rfl, rfl, ?_, ?_⟩, rfl⟩ <;> simp only <;> omega

theorem setFieldLog_accesses (e : Endian) (tbl : List Desc) (n : Nat) (m : Mem) (pdu i v : Nat)
    (d : Desc) (hrow : tbl[i]? = some d) (hd : d.Valid) :
    ∀ a ∈ (setFieldLog e tbl n m (some pdu) i v).2, FieldAccess d pdu a := by
  rcases setFieldLog_cases e tbl n m (some pdu) i v with h | ⟨p, d', hp, _, hrow', h⟩
  · rw [h]; intro a ha; cases ha
  · cases hp; cases hrow.symm.trans hrow'
    rw [h, setLoop_eq_walk]
    refine walk_spec d (setStep e d pdu _) hd (fun _ s => ∀ a ∈ s.2, FieldAccess d pdu a) ?_ _
      (fun a ha => by cases ha)
    intro qo pb s inv hlt hs a ha
    obtain ⟨_, hq, hle⟩ := posInv_step d hd qo pb inv hlt
    simp only [setStep, setLoop, if_pos hlt] at ha
    rcases List.mem_append.mp ha with h | h
    · exact hs a h
    · have : a.addr = pdu + (d.quadlet + qo) * 4 ∧ a.width = 4 ∧ a.align = 1 := by
        rw [← hq]
        rcases List.mem_cons.mp h with h | h
        · rw [h]; exact ⟨rfl, rfl, rfl⟩
        · rw [List.mem_singleton.mp h]; exact ⟨rfl, rfl, rfl⟩
      exact ⟨this.2.1, this.2.2, by omega, by omega⟩

theorem getFieldLog_rejected (e : Endian) (tbl : List Desc) (n : Nat) (m : Mem) (pdu : Option Nat)
    (i : Nat) (h : pdu = none ∨ n ≤ i) : getFieldLog e tbl n m pdu i = (0, []) := by
  unfold getFieldLog
  rcases h with h | h
  · subst h; rfl
  · cases pdu with
    | none => rfl
    | some p => simp only [Nat.not_lt.mpr h, if_false]

theorem setFieldLog_rejected (e : Endian) (tbl : List Desc) (n : Nat) (m : Mem) (pdu : Option Nat)
    (i v : Nat) (h : pdu = none ∨ n ≤ i) : setFieldLog e tbl n m pdu i v = (m, []) := by
  unfold setFieldLog
  rcases h with h | h
  · subst h; rfl
  · cases pdu with
    | none => rfl
    | some p => simp only [Nat.not_lt.mpr h, if_false]

/-- The reader's result is a `uint64_t` value, whatever the table holds. -/
theorem getField_lt (e : Endian) (tbl : List Desc) (n : Nat) (m : Mem) (pdu : Option Nat) (i : Nat) :
    getField e tbl n m pdu i < 2 ^ 64 := by
  rcases getFieldLog_cases e tbl n m pdu i with h | ⟨p, d, -, -, -, h⟩
  · rw [getField, h]; exact Nat.two_pow_pos 64
  · rw [getField, h, getLoop_eq_walk]
    refine walk_always d (getStep e d m p) (fun s => s.1 < 2 ^ 64) (fun qo pb s hlt hs => ?_) _ _ _ _ (Nat.two_pow_pos 64)
    simp only [getStep, getLoop, if_pos hlt]
    exact Nat.or_lt_two_pow hs (Nat.mod_lt _ (by decide))

end O1722
