/-
  C18, about the Models of the example listeners' receive paths (Model/Tunnel.lean for
  acf-can-listener.c, Model/Listeners.lean for the others): for EVERY datagram — any length up to
  the receive buffer, any content — and any prior buffer content and listener state,
    * every buffer offset the parser touches lies inside the received octets,
    * every copy fits its destination,
    * the result depends only on the received octets (nothing stale is interpreted: proved for the
      ACF-CAN, hello-world and ACF-VSS listeners),
    * the walk ends within a number of steps bounded by the datagram length, and
    * the CRF listener's search ends within 640 steps and one datagram adds at most 160 timestamps to its
      queue (`C18_crf_lookup`, `C18_crf_step`; nothing bounds the queue over a sequence of datagrams).
-/
import O1722.Props.Tunnel
import O1722.Model.Listeners
import O1722.Lemmas.Holds

namespace O1722
open Spec

/-! ### reads from two memories that hold the same `n` received octets -/

section below
variable {m m' : Mem} {n : Nat} (h : ∀ x, x < n → m x = m' x)
include h

theorem getNamed_below (s : FormatSpec) (hd : fieldsDisjoint s = true) (pdu : Nat) (name : String) (k : Nat)
    (hb : pdu + k ≤ n) (hk : s.headerLen ≤ k := by decide) :
    getNamed s m pdu name = getNamed s m' pdu name :=
  getNamed_congr s hd m m' pdu name fun a _ _ => h a (by omega)

theorem read_below (a l : Nat) (hb : l = 0 ∨ a + l ≤ n) : Mem.read m a l = Mem.read m' a l :=
  read_congr m m' a l fun x _ _ => h x (by omega)

theorem rdBe_below (e : Endian) (k a : Nat) (hb : a + k ≤ n) : rdBe e k m a = rdBe e k m' a :=
  rdBe_congr e k m m' a fun x _ _ => h x (by omega)

theorem acfAt_below (udp : Bool) (hn : (if udp then 4 else 0) + 12 ≤ n) : acfAt udp m = acfAt udp m' := by
  simp only [acfAt]
  rw [getNamed_below h Spec.commonHeader commonHeader_disjoint _ _ 4 (by omega)]

theorem helloPlan_below (udp : Bool) : helloPlan udp m n = helloPlan udp m' n := by
  refine ite_congr rfl (fun _ => rfl) fun h1 => ?_
  rw [acfAt_below h udp (by omega)]
  refine ite_congr rfl (fun _ => rfl) fun h2 => ?_
  rw [getNamed_below h Spec.acfCommon acfCommon_disjoint _ _ 4 (by omega)]
  simp only [fun name => getNamed_below h Spec.gpc (fieldsDisjoint_of_mem (by simp [Spec.all])) (acfAt udp m') name 8 (by omega)]

theorem vssCalcPathLength_below (e : Endian) (pdu : Nat) (hb : pdu + 14 ≤ n) :
    vssCalcPathLength e m pdu = vssCalcPathLength e m' pdu := by
  unfold vssCalcPathLength vssAddrMode vssFixedHeader
  rw [getNamed_below h Spec.vss vss_disjoint pdu _ 12 (by omega), rdBe_below h e 2 (pdu + 12) (by omega)]

theorem vssPlan_below (udp : Bool) : vssPlan udp m n = vssPlan udp m' n := by
  refine ite_congr rfl (fun _ => rfl) fun h1 => ?_
  rw [acfAt_below h udp (by omega)]
  refine ite_congr rfl (fun _ => rfl) fun h2 => ?_
  have e := fun name => getNamed_below h Spec.vss vss_disjoint (acfAt udp m') name 12 (by omega)
  rw [getNamed_below h Spec.acfCommon acfCommon_disjoint _ _ 4 (by omega)]
  simp only [e, vssCalcPathLength_below h .little (acfAt udp m') (by omega)]

end below

/-! ### ACF-CAN listener -/

theorem listenMsg_bounds (cfg : TunnelCfg) (m : Mem) (at_ rem : Nat) (o : CanOut) (l : Nat)
    (h : listenMsg cfg m at_ rem = some (o, l)) :
    16 ≤ l ∧ l ≤ rem ∧ 16 + o.len ≤ l ∧ o.len ≤ maxData cfg ∧ o.data.length = o.len := by
  simp only [listenMsg, Option.ite_none_left_eq_some, Option.some.injEq, Prod.mk.injEq] at h
  obtain ⟨_, hc, _, rfl, rfl⟩ := h
  exact ⟨by omega, by omega, by dsimp only; omega, by dsimp only; omega, read_length ..⟩

/-- **C18 (CAN, walk).** Every message header the walk inspects lies inside the announced ACF
    data, and every frame written was copied from inside it and fits the frame. -/
theorem listenLoop_bounds (cfg : TunnelCfg) (m : Mem) (base L : Nat) :
    ∀ fuel done, ∀ ev ∈ listenLoop cfg m base L fuel done,
      base + done ≤ ev.1 ∧ ev.1 + 16 ≤ base + L ∧
      ∀ o, ev.2 = some o → ev.1 + 16 + o.len ≤ base + L ∧ o.len ≤ maxData cfg ∧ o.data.length = o.len := by
  intro fuel done
  fun_induction listenLoop cfg m base L fuel done with
  | case1 | case2 | case5 => intro _ h; cases h
  | case3 fuel done _ _ o l hm ih =>
    obtain ⟨b1, b2, b3, b4, b5⟩ := listenMsg_bounds cfg m _ _ o l hm
    intro ev h
    rcases List.mem_cons.mp h with rfl | h
    · exact ⟨Nat.le_refl _, by omega, fun o' ho' => by cases ho'; exact ⟨by omega, b4, b5⟩⟩
    · obtain ⟨i1, i2, i3⟩ := ih ev h
      exact ⟨by omega, i2, i3⟩
  | case4 =>
    intro ev h
    rw [List.mem_singleton.mp h]
    exact ⟨Nat.le_refl _, by omega, fun _ ho' => by cases ho'⟩

theorem listenLoop_congr (cfg : TunnelCfg) (m₁ m₂ : Mem) (base L : Nat)
    (h : ∀ x, base ≤ x → x < base + L → m₁ x = m₂ x) :
    ∀ fuel done, listenLoop cfg m₁ base L fuel done = listenLoop cfg m₂ base L fuel done := by
  intro fuel
  induction fuel with
  | zero => intro _; rfl
  | succ fuel ih =>
    intro done
    refine ite_congr rfl (fun _ => ite_congr rfl (fun _ => rfl) fun _ => ?_) fun _ => rfl
    rw [listenMsg_congr cfg m₁ m₂ (base + done) (L - done) (by omega) fun x h1 h2 => h x (by omega) (by omega)]
    simp only [ih]

/-- **C18 (CAN, bounded time).** The walk performs at most one step per 16 announced octets
    (plus the final one), whatever the length fields say: a zero or tiny `acf_msg_length`
    cannot stall it. -/
theorem listenLoop_steps (cfg : TunnelCfg) (m : Mem) (base L : Nat) :
    ∀ fuel done, (listenLoop cfg m base L fuel done).length ≤ (L - done) / 16 + 1 := by
  intro fuel done
  fun_induction listenLoop cfg m base L fuel done with
  | case1 | case2 | case4 | case5 => simp
  | case3 fuel done _ _ o l hm ih =>
    obtain ⟨b1, b2, _⟩ := listenMsg_bounds cfg m _ _ o l hm
    simp only [List.length_cons]
    omega

/-- … and the model's step budget (400) is never what ends it: any budget of at least
    `L / 16 + 1` steps gives the same walk. -/
theorem listenLoop_fuel (cfg : TunnelCfg) (m : Mem) (base L : Nat) :
    ∀ fuel done k, (L - done) / 16 + 1 ≤ fuel →
      listenLoop cfg m base L (fuel + k) done = listenLoop cfg m base L fuel done := by
  intro fuel done
  fun_induction listenLoop cfg m base L fuel done with
  | case1 => intro k h; omega
  | case2 fuel done h1 h2 => intro k _; rw [Nat.succ_add, listenLoop, if_pos h1, if_pos h2]
  | case3 fuel done h1 h2 o l hm ih =>
    intro k h
    obtain ⟨b1, b2, _⟩ := listenMsg_bounds cfg m _ _ o l hm
    rw [Nat.succ_add, listenLoop, if_pos h1, if_neg h2, hm]
    simp only [ih k (by omega)]
  | case4 fuel done h1 h2 hm => intro k _; rw [Nat.succ_add, listenLoop, if_pos h1, if_neg h2, hm]
  | case5 fuel done h1 => intro k _; rw [Nat.succ_add, listenLoop, if_neg h1]

theorem listenWalk_cases (cfg : TunnelCfg) (m : Mem) (n : Nat) :
    listenWalk cfg m n = [] ∨
    ∃ base L, base + L ≤ n ∧ listenWalk cfg m n = listenLoop cfg m base L 400 0 := by
  generalize hW : listenWalk cfg m n = W
  unfold listenWalk at hW
  generalize (if cfg.udp = true then 4 else 0) = cfAt at hW
  dsimp only at hW
  -- every path ends in `[]` or, the announced length checked against `n`, in the walk
  split at hW
  · exact .inl hW.symm
  split at hW
  · exact .inl hW.symm
  split at hW
  · split at hW
    · exact .inl hW.symm
    split at hW
    · exact .inl hW.symm
    · exact .inr ⟨_, _, by omega, hW.symm⟩
  split at hW
  · split at hW
    · exact .inl hW.symm
    · exact .inr ⟨_, _, by omega, hW.symm⟩
  · exact .inl hW.symm

/-- **C18 (ACF-CAN listener).** For every mode, every receive-buffer content `m` and every
    received length `n`: each message header inspected lies inside the received octets, each
    frame written was copied from inside them, carries at most 8 (classic) / 64 (FD) data
    octets and exactly `len` of them. -/
theorem C18_can_bounds (cfg : TunnelCfg) (m : Mem) (n : Nat) :
    ∀ ev ∈ listenWalk cfg m n, ev.1 + 16 ≤ n ∧
      ∀ o, ev.2 = some o → ev.1 + 16 + o.len ≤ n ∧ o.len ≤ maxData cfg ∧ o.data.length = o.len := by
  intro ev h
  rcases listenWalk_cases cfg m n with h0 | ⟨base, L, hb, h0⟩
  · rw [h0] at h; cases h
  · rw [h0] at h
    obtain ⟨_, b2, b3⟩ := listenLoop_bounds cfg m base L 400 0 ev h
    refine ⟨by omega, fun o ho => ?_⟩
    obtain ⟨c1, c2, c3⟩ := b3 o ho
    exact ⟨by omega, c2, c3⟩

/-- **C18 (ACF-CAN listener, nothing stale).** The walk — hence every frame written — is a
    function of the received octets only: whatever the buffer holds beyond them (earlier
    datagrams, uninitialised stack) is never interpreted. -/
theorem C18_can_local (cfg : TunnelCfg) (m₁ m₂ : Mem) (n : Nat) (h : ∀ x, x < n → m₁ x = m₂ x) :
    listenWalk cfg m₁ n = listenWalk cfg m₂ n := by
  refine ite_congr rfl (fun _ => rfl) fun _ => ?_
  generalize (if cfg.udp = true then 4 else 0) = cfAt
  refine ite_congr rfl (fun _ => rfl) fun hn => ?_
  rw [getNamed_below h Spec.commonHeader commonHeader_disjoint cfAt _ 4 (by omega)]
  refine ite_congr rfl (fun _ => ite_congr rfl (fun _ => rfl) fun hn24 => ?_)
    fun _ => ite_congr rfl (fun _ => ?_) fun _ => rfl
  · rw [getNamed_below h Spec.tscf (fieldsDisjoint_of_mem (by simp [Spec.all])) cfAt _ 24 (by omega)]
    exact ite_congr rfl (fun _ => rfl) fun hl =>
      listenLoop_congr cfg m₁ m₂ _ _ (fun x _ h2 => h x (by omega)) 400 0
  · rw [getNamed_below h Spec.ntscf (fieldsDisjoint_of_mem (by simp [Spec.all])) cfAt _ 12 (by omega)]
    exact ite_congr rfl (fun _ => rfl) fun hl =>
      listenLoop_congr cfg m₁ m₂ _ _ (fun x _ h2 => h x (by omega)) 400 0

/-- **C18 (ACF-CAN listener, bounded time).** At most `n / 16 + 1` messages are inspected for
    a datagram of `n` octets — whatever its length fields say — and for datagrams up to the
    1500-octet buffer the model's step budget is never what ends the walk. -/
theorem C18_can_steps (cfg : TunnelCfg) (m : Mem) (n : Nat) :
    (listenWalk cfg m n).length ≤ n / 16 + 1 ∧
    (n ≤ 1500 → ∀ base L k, base + L ≤ n →
      listenLoop cfg m base L (400 + k) 0 = listenLoop cfg m base L 400 0) := by
  constructor
  · rcases listenWalk_cases cfg m n with h0 | ⟨base, L, hb, h0⟩
    · rw [h0]; simp
    · rw [h0]
      have := listenLoop_steps cfg m base L 400 0
      omega
  · intro hn base L k hb
    apply listenLoop_fuel
    omega

theorem helloPlan_bounds (udp : Bool) (m : Mem) (n o l c : Nat) (h : helloPlan udp m n = some (o, l, c)) :
    o + l ≤ n ∧ l ≤ 92 ∧ (if udp then 4 else 0) + 12 ≤ n ∧ o = acfAt udp m + 8 := by
  simp only [helloPlan, Option.ite_none_left_eq_some, Option.ite_none_right_eq_some, Option.some.injEq,
    Prod.mk.injEq] at h
  omega

/-- **C18 (hello-world listener).** For every datagram: the text printed is read from inside
    the received octets, is at most 92 octets long, and what is printed depends only on the
    received octets (no stale or uninitialised byte is printed or interpreted). -/
theorem C18_hello (udp : Bool) (m : Mem) (n : Nat) :
    (∀ o l c, helloPlan udp m n = some (o, l, c) → o + l ≤ n ∧ l ≤ 92) ∧
    (∀ m', (∀ x, x < n → m x = m' x) → helloRecv udp m n = helloRecv udp m' n) := by
  refine ⟨fun o l c h => ?_, fun m' h => ?_⟩
  · obtain ⟨b1, b2, _⟩ := helloPlan_bounds udp m n o l c h
    exact ⟨b1, b2⟩
  · unfold helloRecv
    rw [← helloPlan_below h udp]
    cases hp : helloPlan udp m n with
    | none => rfl
    | some r =>
      obtain ⟨o, l, c⟩ := r
      obtain ⟨hb, _⟩ := helloPlan_bounds udp m n o l c hp
      simp only [read_below h o l (by omega)]

theorem vssPlan_bounds (udp : Bool) (m : Mem) (n : Nat) (at_ mode pb : Nat) (wv : Bool)
    (h : vssPlan udp m n = some (at_, mode, pb, wv)) :
    at_ + 12 + 4 ≤ n ∧ at_ + 12 + pb ≤ n ∧ (mode = 0 ∨ mode = 1) ∧ (mode = 0 → 2 ≤ pb) ∧
    (wv = true → at_ + 12 + pb + 4 ≤ n) ∧ at_ = acfAt udp m ∧
    pb = vssCalcPathLength .little m at_ := by
  simp only [vssPlan, Option.ite_none_left_eq_some, Option.some.injEq, Prod.mk.injEq] at h
  obtain ⟨h1, h2, _, h4, h5, rfl, rfl, rfl, rfl⟩ := h
  refine ⟨by omega, by omega, by omega, fun hm => ?_, fun hw => ?_, rfl, rfl⟩
  · simp [vssCalcPathLength, vssAddrMode, hm]
  · have := of_decide_eq_true hw
    omega

/-- **C18 (ACF-VSS listener).** For every datagram: path and value are decoded only from
    inside the received octets, the path copied into the listener's 1500-octet buffer
    (terminator included) fits it, and what is printed depends only on the received octets. -/
theorem C18_vss (udp : Bool) (m : Mem) (n : Nat) (hn : n ≤ 1500) :
    (∀ at_ mode pb wv, vssPlan udp m n = some (at_, mode, pb, wv) →
        at_ + 12 + pb ≤ n ∧ (wv = true → at_ + 12 + pb + 4 ≤ n) ∧ (mode = 0 → pb - 2 + 1 ≤ 1500)) ∧
    (∀ m', (∀ x, x < n → m x = m' x) → vssRecv udp m n = vssRecv udp m' n) := by
  refine ⟨fun at_ mode pb wv h => ?_, fun m' h => ?_⟩
  · obtain ⟨_, b2, _, _, b5, _⟩ := vssPlan_bounds udp m n at_ mode pb wv h
    exact ⟨b2, b5, fun _ => by omega⟩
  · unfold vssRecv
    rw [← vssPlan_below h udp]
    cases hp : vssPlan udp m n with
    | none => rfl
    | some r =>
      obtain ⟨at_, mode, pb, wv⟩ := r
      obtain ⟨b1, b2, _, _, b5, _⟩ := vssPlan_bounds udp m n at_ mode pb wv hp
      simp only [read_below h (at_ + 14) (pb - 2) (by omega), rdBe_below h .little 4 (at_ + 12) (by omega)]
      exact ite_congr rfl (fun hw => by rw [rdBe_below h .little 4 _ (b5 hw)]) fun _ => rfl

/-- **C18 (CVF listener).** For every datagram and buffer content: a NAL unit is queued only
    if it fits the 1400-octet queue entry and was copied from inside the received octets. -/
theorem C18_cvf (m : Mem) (n : Nat) (nal : List Byte) (h : cvfRecv m n = some nal) :
    nal.length ≤ 1400 ∧ 28 + nal.length ≤ n := by
  simp only [cvfRecv, Option.ite_none_left_eq_some, Option.some.injEq] at h
  obtain ⟨_, _, hc, rfl⟩ := h
  rw [read_length]
  omega

/-- **C18 (AAF listener).** A sample is queued only from a datagram of exactly the PDU size,
    and it is exactly the 4 sample octets; every other datagram is dropped (and the listener
    keeps running: `aafRecv` is total). -/
theorem C18_aaf (m : Mem) (n : Nat) (smp : List Byte) (h : aafRecv m n = some smp) :
    n = AAF_PDU ∧ smp.length = 4 := by
  simp only [aafRecv, Option.ite_none_left_eq_some, Option.some.injEq] at h
  obtain ⟨hn, _, rfl⟩ := h
  exact ⟨Decidable.not_not.mp hn, read_length ..⟩

/-! ### CRF listener: the media-clock search -/

/-- Rewrite with this equation rather than unfolding `mclkLookup`: the unfolded `match` makes
    the kernel reduce `prev + 125000` one successor at a time. -/
theorem mclkLookup_succ (avtp fuel : Nat) (q : List Nat) (prev : Nat) :
    mclkLookup avtp (fuel + 1) q prev =
      if (mclkNext q prev).1 % 2 ^ 32 = avtp then (some (mclkNext q prev).1, (mclkNext q prev).2, (mclkNext q prev).1)
      else mclkLookup avtp fuel (mclkNext q prev).2 (mclkNext q prev).1 := rfl

/-- The free-wheeling media clock stays in one residue class modulo 8 … -/
theorem mclk_freewheel_mod8 (prev : Nat) : (mclkNext [] prev).1 % 8 = prev % 8 := by
  show (prev + 125000) % 2 ^ 64 % 8 = prev % 8
  omega

/-- … so an unbounded search for a presentation time outside that class could never end: the
    reason the search is bounded. -/
theorem mclk_unreachable (avtp : Nat) :
    ∀ fuel prev, avtp % 8 ≠ prev % 8 → (mclkLookup avtp fuel [] prev).1 = none := by
  intro fuel
  induction fuel with
  | zero => intro _ _; rfl
  | succ fuel ih =>
    intro prev h
    have h8 := mclk_freewheel_mod8 prev
    rw [mclkLookup_succ, if_neg (by omega)]
    exact ih _ (by omega)

theorem mclkNext_queue (q : List Nat) (prev : Nat) :
    (mclkNext q prev).2.length ≤ q.length ∧ q.length - (mclkNext q prev).2.length ≤ 1 := by
  cases q <;> simp [mclkNext]

/-- **C18 (CRF listener, bounded time).** The search consumes at most `fuel` timestamps
    (`fuel` = MCLK_LOOKUP_MAX in the program): it either finds a timestamp whose low 32 bits
    are the presentation time, or gives up having advanced the clock by exactly the
    timestamps it tried; the queue only shrinks. -/
theorem C18_crf_lookup (avtp : Nat) :
    ∀ fuel q prev, let r := mclkLookup avtp fuel q prev
      r.2.1.length ≤ q.length ∧ q.length - r.2.1.length ≤ fuel ∧
      (∀ t, r.1 = some t → t % 2 ^ 32 = avtp ∧ r.2.2 = t) := by
  intro fuel
  induction fuel with
  | zero => intro q prev; exact ⟨Nat.le_refl _, by simp [mclkLookup], fun t h => by cases h⟩
  | succ fuel ih =>
    intro q prev
    have hlen := mclkNext_queue q prev
    rw [mclkLookup_succ]
    split
    · rename_i heq
      exact ⟨hlen.1, by dsimp only; omega, fun t ht => by cases ht; exact ⟨heq, rfl⟩⟩
    · obtain ⟨i1, i2, i3⟩ := ih (mclkNext q prev).2 (mclkNext q prev).1
      exact ⟨by omega, by omega, i3⟩

theorem CrfState.next_eq (st : CrfState) :
    st.next.1 = (mclkNext st.queue st.prev).1 ∧ st.next.2.queue = (mclkNext st.queue st.prev).2 ∧
    st.next.2.prev = st.next.1 := by
  unfold CrfState.next mclkNext
  cases st.queue <;> exact ⟨rfl, rfl, rfl⟩

theorem CrfState.lookup_eq (avtp : Nat) : ∀ fuel (st : CrfState),
    (CrfState.lookup avtp fuel st).1 = (mclkLookup avtp fuel st.queue st.prev).1 ∧
    (CrfState.lookup avtp fuel st).2.queue = (mclkLookup avtp fuel st.queue st.prev).2.1 ∧
    (CrfState.lookup avtp fuel st).2.prev = (mclkLookup avtp fuel st.queue st.prev).2.2 := by
  intro fuel
  induction fuel with
  | zero => intro st; exact ⟨rfl, rfl, rfl⟩
  | succ fuel ih =>
    intro st
    obtain ⟨h1, h2, h3⟩ := st.next_eq
    rw [mclkLookup_succ, CrfState.lookup, ← h1, ← h2]
    split
    · exact ⟨rfl, rfl, h3⟩
    · rw [← h3]; exact ih _

/-- Bounds `recoverMclk` and `recoverMclkMtt`: at most one timestamp per index tried. -/
theorem length_filterMap_range_le {α : Type} (f : Nat → Option α) (n : Nat) :
    ((List.range n).filterMap f).length ≤ n :=
  Nat.le_trans (List.length_filterMap_le _ _) (by simp)

theorem crfAdvance_queue (st : CrfState) (avtp : Nat) :
    (crfAdvance st avtp).2.queue.length ≤ st.queue.length := by
  unfold crfAdvance
  split
  · have hl : (CrfState.lookup avtp MCLK_LOOKUP_MAX st).2.queue.length ≤ st.queue.length := by
      rw [(CrfState.lookup_eq avtp _ st).2.1]
      exact (C18_crf_lookup avtp _ st.queue st.prev).1
    simp only
    split <;> exact hl
  · rw [st.next_eq.2.1]
    exact (mclkNext_queue st.queue st.prev).1

theorem crf_queue_update (s : CrfState) (a : Bool) : ({ s with prevAligned := a } : CrfState).queue = s.queue := rfl

/-- **C18 (CRF listener, AAF-listener mode).** One datagram — any length, any content — is one
    total step: it queues at most the 160 media-clock timestamps of one CRF PDU (only for a
    PDU of the exact size that passes validation) and never grows the queue otherwise. -/
theorem C18_crf_step (st : CrfState) (pkt : List Byte) :
    (crfListenerStep st pkt).1.queue.length ≤ st.queue.length + 160 := by
  have hadv := Nat.le_trans (crfAdvance_queue st (getNamed Spec.pcm (recvInto CRF_BUF 0 pkt).1 0 "AVTP_TIMESTAMP"))
    (Nat.le_add_right _ 160)
  unfold crfListenerStep
  simp only
  split
  · exact Nat.le_add_right ..
  · split
    · split
      · simp only [List.length_append]
        exact Nat.add_le_add_left (length_filterMap_range_le _ 160) _
      · exact Nat.le_add_right ..
    · split
      · split
        · exact Nat.le_add_right ..
        · split
          · exact hadv
          · -- (stated through a rewrite so that the kernel never compares the two states field by
            -- field, which would unfold the 640-step search)
            rw [crf_queue_update]
            exact hadv
      · exact Nat.le_add_right ..

/-- **C18 (CRF listener, AAF-talker mode).** One datagram is one total step: only a PDU of the
    exact size that passes validation queues timestamps (at most 160); the timer is armed only
    when a timestamp to start from exists (the dequeue that crashed the original never happens on
    an empty queue); and every packet sent is exactly one 48-octet AAF PDU. -/
theorem C18_crf_talker (mtt : Nat) (st : CrfTalkerState) (pkt : List Byte) :
    (crfTalkerRecv mtt st pkt).clk.queue.length ≤ st.clk.queue.length + 160 ∧
    (st.armed = false → (crfTalkerRecv mtt st pkt).armed = true →
        ∃ t rest, (st.clk.queue ++ (if getNamed Spec.commonHeader (recvInto CRF_BUF 0 pkt).1 0 "SUBTYPE" = 0x4 ∧
              crfPduValid (recvInto CRF_BUF 0 pkt).1 = true
            then recoverMclkMtt (beN (recvInto CRF_BUF 0 pkt).1 20 8) st.clk.prev mtt else [])) = t :: rest) ∧
    ∀ ts seq, (crfTalkerPdu ts seq).length = 48 := by
  refine and_assoc.mp ⟨?_, fun ts seq => by
    simp only [crfTalkerPdu, List.length_append, read_length, List.length_replicate]⟩
  -- the first-AAF step on a state `s` that is armed as `st` is: it takes a queued timestamp and arms
  -- the timer, or leaves `s` as it is
  have arm : ∀ s : CrfTalkerState, s.armed = st.armed → s.clk.queue.length ≤ st.clk.queue.length + 160 →
      let r := if s.firstAaf = true then
          match s.clk.queue with
          | [] => s
          | _ :: rest => { s with clk := { s.clk with queue := rest }, firstAaf := false, armed := true }
        else s
      r.clk.queue.length ≤ st.clk.queue.length + 160 ∧
        (st.armed = false → r.armed = true → ∃ t rest, s.clk.queue = t :: rest) := by
    intro s ha hl
    have stay : s.clk.queue.length ≤ st.clk.queue.length + 160 ∧
        (st.armed = false → s.armed = true → ∃ t rest, s.clk.queue = t :: rest) :=
      ⟨hl, fun hna harm => by rw [ha, hna] at harm; cases harm⟩
    split
    · split
      · exact stay
      · rename_i t rest hq
        rw [hq] at hl
        exact ⟨Nat.le_trans (Nat.le_succ _) hl, fun _ _ => ⟨t, rest, hq⟩⟩
    · exact stay
  unfold crfTalkerRecv
  simp only
  split
  · exact ⟨Nat.le_add_right .., fun hna harm => by rw [hna] at harm; cases harm⟩
  · split
    · exact arm _ rfl (by simp only [List.length_append]; exact Nat.add_le_add_left (length_filterMap_range_le _ 160) _)
    · rw [List.append_nil]
      exact arm st rfl (Nat.le_add_right ..)

example : (mclkLookup 5 640 [] 0).1 = none := by decide +kernel
example : (mclkLookup 250000 640 [] 0).1 = some 250000 := by decide +kernel

end O1722
