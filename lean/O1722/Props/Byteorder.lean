/-
  C13: the byte-order helpers convert correctly for every 16-, 32- and 64-bit value, on hosts of either
  byte order.
-/
import O1722.Lemmas.Byteorder

namespace O1722

/-- Memory image of a `k`-byte unsigned object holding `x` on a host of byte order `e`. -/
def memImage (e : Endian) (k x : Nat) : List Byte :=
  match e with
  | .little => bytesLE k x
  | .big => bytesBE k x

/-- **C13.** On either host, the object `CpuToBeN(x)` has the big-endian byte sequence of `x`
    as its memory image … -/
theorem memImage_cpuToBe16 (e : Endian) (x : Nat) : memImage e 2 (beCpu16 e x) = bytesBE 2 x := by
  cases e
  · exact bytesLE_bswap16 x
  · rfl
theorem memImage_cpuToBe32 (e : Endian) (x : Nat) : memImage e 4 (beCpu32 e x) = bytesBE 4 x := by
  cases e
  · exact bytesLE_bswap32 x
  · rfl
theorem memImage_cpuToBe64 (e : Endian) (x : Nat) : memImage e 8 (beCpu64 e x) = bytesBE 8 x := by
  cases e
  · exact bytesLE_bswap64 x
  · rfl

/-- … and `CpuToLeN(x)` the little-endian one. -/
theorem memImage_cpuToLe16 (e : Endian) (x : Nat) (hx : x < 2 ^ 16) :
    memImage e 2 (leCpu16 e x) = bytesLE 2 x := by
  cases e
  · rfl
  · exact bytesBE_bswap16 x hx
theorem memImage_cpuToLe32 (e : Endian) (x : Nat) (hx : x < 2 ^ 32) :
    memImage e 4 (leCpu32 e x) = bytesLE 4 x := by
  cases e
  · rfl
  · exact bytesBE_bswap32 x hx
theorem memImage_cpuToLe64 (e : Endian) (x : Nat) (hx : x < 2 ^ 64) :
    memImage e 8 (leCpu64 e x) = bytesLE 8 x := by
  cases e
  · rfl
  · exact bytesBE_bswap64 x hx

/-! ### wire → host inverts host → wire (the same function serves both directions) -/

theorem beCpu16_invol (e : Endian) (x : Nat) (hx : x < 2 ^ 16) : beCpu16 e (beCpu16 e x) = x := by
  cases e
  · exact bswap16_invol x hx
  · rfl
theorem beCpu32_invol (e : Endian) (x : Nat) (hx : x < 2 ^ 32) : beCpu32 e (beCpu32 e x) = x := by
  cases e
  · exact bswap32_invol x hx
  · rfl
theorem beCpu64_invol (e : Endian) (x : Nat) (hx : x < 2 ^ 64) : beCpu64 e (beCpu64 e x) = x := by
  cases e
  · exact bswap64_invol x hx
  · rfl
theorem leCpu16_invol (e : Endian) (x : Nat) (hx : x < 2 ^ 16) : leCpu16 e (leCpu16 e x) = x := by
  cases e
  · rfl
  · exact bswap16_invol x hx
theorem leCpu32_invol (e : Endian) (x : Nat) (hx : x < 2 ^ 32) : leCpu32 e (leCpu32 e x) = x := by
  cases e
  · rfl
  · exact bswap32_invol x hx
theorem leCpu64_invol (e : Endian) (x : Nat) (hx : x < 2 ^ 64) : leCpu64 e (leCpu64 e x) = x := by
  cases e
  · rfl
  · exact bswap64_invol x hx

def Endian.flip : Endian → Endian
  | .little => .big
  | .big => .little

theorem helpers_mirror16 (e : Endian) (x : Nat) : leCpu16 e x = beCpu16 e.flip x := by cases e <;> rfl
theorem helpers_mirror32 (e : Endian) (x : Nat) : leCpu32 e x = beCpu32 e.flip x := by cases e <;> rfl
theorem helpers_mirror64 (e : Endian) (x : Nat) : leCpu64 e x = beCpu64 e.flip x := by cases e <;> rfl

/-- What the model says each of the twelve helpers is on a host of byte order `e`:
    `true` = the swap of its width, `false` = the identity. -/
def modelHelpers (e : Endian) : List (String × Bool) :=
  let le := match e with | .little => false | .big => true
  let be := !le
  [("Avtp_CpuToLe16", le), ("Avtp_CpuToLe32", le), ("Avtp_CpuToLe64", le),
   ("Avtp_CpuToBe16", be), ("Avtp_CpuToBe32", be), ("Avtp_CpuToBe64", be),
   ("Avtp_LeToCpu16", le), ("Avtp_LeToCpu32", le), ("Avtp_LeToCpu64", le),
   ("Avtp_BeToCpu16", be), ("Avtp_BeToCpu32", be), ("Avtp_BeToCpu64", be)]

/-- and it is what `beCpuN` / `leCpuN` compute (one helper of each of the six kinds is spelled out) -/
theorem modelHelpers_sound (e : Endian) (x : Nat) :
    beCpu16 e x = (if (modelHelpers e).lookup "Avtp_CpuToBe16" = some true then bswap16 x else x) ∧
    beCpu32 e x = (if (modelHelpers e).lookup "Avtp_BeToCpu32" = some true then bswap32 x else x) ∧
    beCpu64 e x = (if (modelHelpers e).lookup "Avtp_CpuToBe64" = some true then bswap64 x else x) ∧
    leCpu16 e x = (if (modelHelpers e).lookup "Avtp_CpuToLe16" = some true then bswap16 x else x) ∧
    leCpu32 e x = (if (modelHelpers e).lookup "Avtp_LeToCpu32" = some true then bswap32 x else x) ∧
    leCpu64 e x = (if (modelHelpers e).lookup "Avtp_CpuToLe64" = some true then bswap64 x else x) := by
  cases e <;> simp [modelHelpers, beCpu16, beCpu32, beCpu64, leCpu16, leCpu32, leCpu64, List.lookup]

example : bswap32 0x11223344 = 0x44332211 := by decide
example : bytesBE 4 0x11223344 = [0x11, 0x22, 0x33, 0x44] := by decide
example : memImage .little 2 (beCpu16 .little 0x1234) = [0x12, 0x34] := by decide

end O1722
