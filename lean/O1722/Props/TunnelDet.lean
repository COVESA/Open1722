/-
  C19, nothing stale: the datagram the example talker sends is a function of the frames, sequence
  numbers and timestamps only; whatever its 1500-octet buffer held before (the previous packet,
  uninitialised stack) never reaches the wire.
-/
import O1722.Props.Tunnel

namespace O1722

theorem talkCfHeader_pointwise (cfg : TunnelCfg) (seq : Nat) (m₁ m₂ : Mem) (pdu a : Nat)
    (h : (pdu ≤ a ∧ a < pdu + (cfSpec cfg).headerLen) ∨ m₁ a = m₂ a) :
    talkCfHeader cfg seq m₁ pdu a = talkCfHeader cfg seq m₂ pdu a := by
  have sp := fun m₁ m₂ n v h => setNamed_pointwise (cfSpec cfg) m₁ m₂ pdu n v a h
  have hc := canonical_pointwise (cfSpec cfg) false 0 (zeroFill m₁ pdu (cfSpec cfg).headerLen)
    (zeroFill m₂ pdu (cfSpec cfg).headerLen) pdu a (h.imp_right fun h => by unfold zeroFill; rw [h])
  refine sp _ _ _ _ (sp _ _ _ _ ?_)
  split
  · exact sp _ _ _ _ hc
  · exact hc

/-- **C19 (nothing stale on the wire).** The datagram sent, the frames left waiting and whether
    a packet is sent at all are the same whatever the talker's buffer held before. -/
theorem C19_packet_no_stale (cfg : TunnelCfg) (count udpSeq seq : Nat) (m₁ m₂ : Mem)
    (frames : List (Nat × CanFrame)) (hwf : ∀ p ∈ frames, p.2.wf cfg) :
    talkPacket cfg count udpSeq seq m₁ frames = talkPacket cfg count udpSeq seq m₂ frames := by
  unfold talkPacket
  simp only
  generalize hcf : (if cfg.udp = true then 4 else 0) = cfAt
  -- the buffers after the encapsulation and control-format headers agree on [0, cfAt + hl)
  generalize hA : (if cfg.udp = true then setNamed Spec.udp m₁ 0 "ENCAPSULATION_SEQ_NO" (udpSeq % 2 ^ 32) else m₁) = a₁
  generalize hB : (if cfg.udp = true then setNamed Spec.udp m₂ 0 "ENCAPSULATION_SEQ_NO" (udpSeq % 2 ^ 32) else m₂) = a₂
  have hudp : ∀ x, x < cfAt → a₁ x = a₂ x := by
    intro x hx
    rw [← hA, ← hB]
    by_cases hu : cfg.udp = true
    · -- the 32-bit sequence number fills the 4-octet header
      rw [if_pos hu] at hcf
      simp only [if_pos hu, setNamed, show Spec.udp.fieldNamed "ENCAPSULATION_SEQ_NO" =
        some ⟨"AVTP_UDP_FIELD_ENCAPSULATION_SEQ_NO", "EncapsulationSeqNo", 0, 32⟩ by decide]
      apply byte_ext; intro j hj
      rw [← wireBit_byte _ 0 x j (Nat.zero_le _) hj, ← wireBit_byte _ 0 x j (Nat.zero_le _) hj, specSet_bits,
        specSet_bits, if_pos (by omega), if_pos (by omega)]
    · rw [if_neg hu] at hcf; omega
  have hhdr : ∀ x, x < cfAt + (cfSpec cfg).headerLen →
      talkCfHeader cfg seq a₁ cfAt x = talkCfHeader cfg seq a₂ cfAt x := by
    intro x hx
    apply talkCfHeader_pointwise
    by_cases hc : cfAt ≤ x
    · exact Or.inl ⟨hc, hx⟩
    · exact Or.inr (hudp x (by omega))
  obtain ⟨_, bs, rest, fin, _, _, _, _, _, hw, _⟩ := talkLoop_writes cfg count frames (cfAt + (cfSpec cfg).headerLen) 0 hwf (by
    have : cfAt ≤ 4 := by rw [← hcf]; split <;> omega
    have : (cfSpec cfg).headerLen ≤ 24 := by rw [cf_headerLen]; split <;> omega
    unfold MAX_PDU_SIZE; omega)
  rw [hw, hw]
  refine congrArg (·, rest, fin) (read_congr _ _ _ _ fun x _ hx => setNamed_pointwise _ _ _ _ _ _ _ ?_)
  apply Mem.write_pointwise
  by_cases hlo : cfAt + (cfSpec cfg).headerLen ≤ x
  · exact Or.inl ⟨hlo, Nat.lt_of_lt_of_le hx (by rw [Nat.zero_add]; exact Nat.mod_le _ _)⟩
  · exact Or.inr (hhdr x (by omega))

end O1722
