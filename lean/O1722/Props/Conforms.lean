/-
  The decidable obligations that C01–C04, C11 and C12 put on one format's regenerated data, taken
  together: the regenerated Gen/Facts.lean evaluates `Conforms Spec.<format> Gen.<format>` once per format.
-/
import O1722.Props.Api

namespace O1722
open Spec

/-- One evaluation serves all six checks: they walk the same rows, enumerators and accessor
    names, and the kernel computes those once. -/
structure Conforms (s : FormatSpec) (g : GenFormat) : Prop where
  c01 : checkC01 s g = true
  c02 : checkC02 s g = true
  c03 : checkC03 s g = true
  c04 : checkC04 s g = true
  c11 : checkC11 s g = true
  c12 : checkC12 s g = true

instance (s : FormatSpec) (g : GenFormat) : Decidable (Conforms s g) :=
  decidable_of_iff (checkC01 s g = true ∧ checkC02 s g = true ∧ checkC03 s g = true
      ∧ checkC04 s g = true ∧ checkC11 s g = true ∧ checkC12 s g = true)
    ⟨fun ⟨a, b, c, d, e, f⟩ => ⟨a, b, c, d, e, f⟩, fun ⟨a, b, c, d, e, f⟩ => ⟨a, b, c, d, e, f⟩⟩

theorem Conforms.rows {s : FormatSpec} {g : GenFormat} (h : Conforms s g) : checkRows s g = true := by
  have := h.c03
  simp only [checkC03, Bool.and_eq_true] at this
  exact this.1.1

end O1722
