/-
  C16: library calls read and write only the objects passed to them (and immutable tables),
  therefore calls issued by any number of threads on distinct PDUs — and read-only calls on
  shared ones — give, under EVERY interleaving, the results of running each thread alone.

  Granularity: one library call = one atomic step (the calls' access logs are disjoint for
  distinct PDUs by C03, so there is no conflicting pair of accesses to order below that
  granularity; that a data-race-free execution is equivalent to such an interleaving is the
  C11 memory model's guarantee and is assumed, not modelled).
-/
import O1722.Props.Header

namespace O1722
open Spec

structure LocalTo (f : Mem → Mem) (R : Nat → Prop) : Prop where
  frame : ∀ m a, ¬ R a → f m a = m a
  loc : ∀ m₁ m₂, (∀ a, R a → m₁ a = m₂ a) → ∀ a, R a → f m₁ a = f m₂ a

theorem list_snoc_induction {α : Type} {P : List α → Prop} (hnil : P [])
    (hsnoc : ∀ l a, P l → P (l ++ [a])) : ∀ l, P l := by
  intro l
  rw [← List.reverse_reverse l]
  induction l.reverse with
  | nil => exact hnil
  | cons a t ih => rw [List.reverse_cons]; exact hsnoc _ _ ih

structure Step where
  tid : Nat
  f : Mem → Mem

def runSched (zs : List Step) (m : Mem) : Mem := zs.foldl (fun m s => s.f m) m

theorem runSched_append (xs ys : List Step) (m : Mem) :
    runSched (xs ++ ys) m = runSched ys (runSched xs m) := by
  unfold runSched; rw [List.foldl_append]

theorem runSched_frame (R : Nat → Nat → Prop) (a : Nat) (ha : ∀ t, ¬ R t a) :
    ∀ (zs : List Step), (∀ s ∈ zs, LocalTo s.f (R s.tid)) → ∀ m, runSched zs m a = m a := by
  intro zs
  induction zs with
  | nil => intro _ _; rfl
  | cons s zs ih =>
    intro hloc m
    show runSched zs (s.f m) a = m a
    rw [ih (fun x hx => hloc x (List.mem_cons_of_mem _ hx)),
      (hloc s (List.mem_cons_self ..)).frame _ a (ha s.tid)]

/-- **C16 (schedules).** Let every step of thread `t` be local to that thread's region
    `R t` (its PDUs) and let the regions of different threads be disjoint. Then for EVERY
    schedule `zs` (any interleaving of any number of threads) the final contents of thread
    `t`'s region are exactly what thread `t`'s own steps, run alone in program order, produce;
    and memory outside all regions is untouched. -/
theorem schedule_independent (R : Nat → Nat → Prop)
    (hdis : ∀ t₁ t₂ a, t₁ ≠ t₂ → ¬ (R t₁ a ∧ R t₂ a)) :
    ∀ (zs : List Step), (∀ s ∈ zs, LocalTo s.f (R s.tid)) → ∀ (m : Mem),
      (∀ t a, R t a → runSched zs m a = runSched (zs.filter (fun s => s.tid == t)) m a) ∧
      (∀ a, (∀ t, ¬ R t a) → runSched zs m a = m a) := by
  intro zs hloc m
  refine ⟨?_, fun a ha => runSched_frame R a ha zs hloc m⟩
  induction zs using list_snoc_induction with
  | hnil => intro _ _ _; rfl
  | hsnoc zs s ih =>
    have ih := ih (fun x hx => hloc x (List.mem_append_left _ hx))
    have hs : LocalTo s.f (R s.tid) := hloc s (by simp)
    intro t a ha
    rw [runSched_append, List.filter_append, runSched_append]
    simp only [List.filter_cons]
    by_cases ht : s.tid = t
    · subst ht
      simp only [beq_self_eq_true, if_true, runSched, List.foldl_cons, List.foldl_nil]
      exact hs.loc _ _ (fun a' ha' => ih s.tid a' ha') a ha
    · have hne : (s.tid == t) = false := by simpa using ht
      simp only [hne, runSched, List.foldl_cons, List.foldl_nil]
      rw [hs.frame _ a (fun hc => hdis s.tid t a ht ⟨hc, ha⟩)]
      exact ih t a ha

/-- **C16 (two calls).** Calls local to disjoint regions commute: either order of the two
    leaves the same memory. -/
theorem local_comm (f g : Mem → Mem) (R S : Nat → Prop) (hf : LocalTo f R) (hg : LocalTo g S)
    (hd : ∀ a, ¬ (R a ∧ S a)) (m : Mem) : f (g m) = g (f m) := by
  funext a
  by_cases hR : R a
  · have hS : ¬ S a := fun h => hd a ⟨hR, h⟩
    rw [hg.frame _ a hS]
    exact hf.loc _ _ (fun a' ha' => hg.frame m a' (fun h => hd a' ⟨ha', h⟩)) a hR
  · rw [hf.frame _ a hR]
    by_cases hS : S a
    · exact (hg.loc _ _ (fun a' ha' => hf.frame m a' (fun h => hd a' ⟨h, ha'⟩)) a hS).symm
    · rw [hg.frame _ a hS, hg.frame _ a hS, hf.frame _ a hR]

/-- **C16 (read-only sharing).** A region no thread writes keeps its initial contents at
    every point of every schedule — so every read of a shared PDU returns what it would
    return before any thread started (reads depend only on the field's own bytes:
    `getField_depends_only_on_field`). -/
theorem shared_region_stable (R : Nat → Nat → Prop) (Q : Nat → Prop)
    (hq : ∀ t a, Q a → ¬ R t a) (zs : List Step) (hloc : ∀ s ∈ zs, LocalTo s.f (R s.tid)) (m : Mem) :
    ∀ (pre : List Step), pre <+: zs → ∀ a, Q a → runSched pre m a = m a :=
  fun pre hpre a ha =>
    runSched_frame R a (fun t => hq t a ha) pre (fun s hs => hloc s (hpre.subset hs)) m

def headerRegion (p len : Nat) : Nat → Prop := fun a => p ≤ a ∧ a < p + len

theorem specSet_local (pdu s w v len : Nat) (hin : s + w ≤ 8 * len) :
    LocalTo (fun m => specSet m pdu s w v) (headerRegion pdu len) := by
  constructor
  · intro m a ha
    apply specSet_frame
    unfold headerRegion at ha
    omega
  · intro m₁ m₂ h a ha
    exact specSet_pointwise m₁ m₂ pdu s w v a (h a ha)

theorem setter_local (s : FormatSpec) (g : GenFormat) (h : checkRows s g = true) (x : Setter)
    (hx : x ∈ g.setters) (e : Endian) (p arg v : Nat) :
    LocalTo (fun m => x.run g.table e m (some p) arg v) (headerRegion p s.headerLen) := by
  simp only [Setter.run, setField_total e _ _ _ _ _ _ fun d hrow => (row_facts s g h _ d hrow).1]
  split
  · rename_i p' d hp hrow
    cases hp
    split at hrow
    · have hw := rowWithin_le _ _ (row_facts s g h _ d hrow).2
      exact specSet_local p _ _ _ _ (by unfold Desc.start; omega)
    · cases hrow
  · exact ⟨fun _ _ _ => rfl, fun _ _ hm => hm⟩

/-- No object with static storage duration is writable: the only data the library shares
    between calls are `const` tables. (`statics` is regenerated from the AST of every source
    file, function-local statics included.) -/
def checkC16 (g : GenFormat) : Bool := g.statics.all (fun (_, _, isConst) => isConst) && g.opaqueFns.isEmpty

/-- The library's hand-modelled *reading* functions and the parameters through which each may
    store (its result objects): the Models of these functions return values and no memory,
    which is faithful only if the C functions do not store through anything else — in
    particular not through the PDU they read. -/
def readerFunctions : List (String × List String) :=
  [("Avtp_Can_GetCanPayloadLength", []), ("Avtp_Vss_GetVssPath", ["val"]),
   ("Avtp_Vss_CalcVssPathLength", []), ("Avtp_Vss_GetVSSDataStringArrayLength", []),
   ("Avtp_Vss_DeserializeStringArray", ["strings"]), ("Avtp_Vss_GetVssData", ["val"]),
   -- writers: only the PDU / the destination block, never the caller's source objects
   ("Avtp_Can_CreateAcfMessage", ["pdu"]), ("Avtp_Can_Finalize", ["pdu"]), ("Avtp_Can_SetPayload", ["pdu"]),
   ("Avtp_CanBrief_SetPayload", ["pdu"]), ("Avtp_CanBrief_Finalize", ["pdu"]),
   ("Avtp_Vss_Pad", ["vss_pdu"]), ("Avtp_Vss_SetVssPath", ["pdu"]), ("Avtp_Vss_SetVssData", ["pdu"]),
   ("Avtp_Vss_SerializeStringArray", ["vss_data_string_array"]),
   ("Vss_ReadBe16", []), ("Vss_ReadBe32", []), ("Vss_ReadBe64", []),
   ("Vss_WriteBe16", ["p"]), ("Vss_WriteBe32", ["p"]), ("Vss_WriteBe64", ["p"])]

/-- Every modelled function the file defines stores only through the parameters listed for it
    (readers: their result objects; writers: the PDU or destination block)
    (`algoWrites` is regenerated from the AST). -/
def checkReaders (g : GenFormat) : Bool :=
  g.algoWrites.all (fun (fn, ws) =>
    match readerFunctions.lookup fn with
    | some allowed => ws.all (fun w => allowed.contains w)
    | none => true)

end O1722
