/-
  C20: if the public headers are pairwise compatible then ANY duplicate-free selection of them, in ANY
  order, is accepted and every name keeps the meaning it has in its own header.
-/
import O1722.Model.Headers

namespace O1722

theorem lookupNat_append (l₁ l₂ : List (Nat × Nat)) (n : Nat) :
    lookupNat (l₁ ++ l₂) n = (lookupNat l₁ n).or (lookupNat l₂ n) := by
  induction l₁ with
  | nil => simp [lookupNat]
  | cons p rest ih =>
    simp only [List.cons_append, lookupNat]
    split
    · simp
    · exact ih

theorem lookupNat_mem (l : List (Nat × Nat)) (n m : Nat) (h : lookupNat l n = some m) : (n, m) ∈ l := by
  fun_induction lookupNat l n with
  | case1 => cases h
  | case2 k v rest hk => cases h; rw [beq_iff_eq.mp hk]; exact List.mem_cons_self
  | case3 k v rest hk ih => exact List.mem_cons_of_mem _ (ih h)

theorem lookupNat_isSome_of_mem (l : List (Nat × Nat)) (n m : Nat) (h : (n, m) ∈ l) :
    ∃ m', lookupNat l n = some m' := by
  fun_induction lookupNat l n with
  | case1 => cases h
  | case2 k v rest hk => exact ⟨v, rfl⟩
  | case3 k v rest hk ih =>
    rcases List.mem_cons.mp h with h' | h'
    · cases h'; simp at hk
    · exact ih h'

def pairwiseCompat (hs : List Hdr) : Bool :=
  hs.all (fun a => hs.all (fun b => a.id == b.id || compat a b))

theorem foldlM_addHdr (hs : List Hdr) : ∀ acc : List Hdr, (∀ a ∈ acc, ∀ b ∈ hs, compat a b = true) →
    hs.Pairwise (fun a b => compat a b = true) → hs.foldlM addHdr acc = some (acc ++ hs) := by
  induction hs with
  | nil => intro acc _ _; simp
  | cons h t ih =>
    intro acc h1 h2
    obtain ⟨h2a, h2b⟩ := List.pairwise_cons.mp h2
    have hall : acc.all (fun a => compat a h) = true := List.all_eq_true.mpr fun a ha => h1 a ha h List.mem_cons_self
    rw [List.foldlM_cons, addHdr, if_pos hall, Option.bind_eq_bind, Option.bind_some, ih, List.append_assoc]
    · rfl
    · intro a ha b hb
      rcases List.mem_append.mp ha with ha | ha
      · exact h1 a ha b (List.mem_cons_of_mem _ hb)
      · rw [List.mem_singleton.mp ha]; exact h2a b hb
    · exact h2b

/-- **C20 (acceptance).** Any selection of distinct headers taken from a pairwise compatible
    set is accepted, in whatever order it is written. -/
theorem includeAll_ok (all : List Hdr) (hc : pairwiseCompat all = true) :
    ∀ hs : List Hdr, (∀ h ∈ hs, h ∈ all) → (hs.map (·.id)).Nodup → includeAll hs = some hs := by
  intro hs hmem hnd
  simp only [pairwiseCompat, List.all_eq_true, Bool.or_eq_true, beq_iff_eq] at hc
  refine foldlM_addHdr hs [] (fun _ h => nomatch h) ((List.pairwise_map.mp hnd).imp_of_mem fun ha hb hne => ?_)
  exact (hc _ (hmem _ ha) _ (hmem _ hb)).resolve_left hne

/-- Pairwise compatibility of `all` but for the pairs `ex` (by header name, either order). -/
def compatExcept (all : List Hdr) (ex : List (String × String)) : Bool :=
  all.all (fun a => all.all (fun b => a.id == b.id || compat a b ||
    ex.any (fun p => (a.name == p.1 && b.name == p.2) || (a.name == p.2 && b.name == p.1))))

theorem pairwiseCompat_drop (all : List Hdr) (ex : List (String × String)) (d : String)
    (ht : compatExcept all ex = true) (hd : ex.all (fun p => p.1 == d || p.2 == d) = true) :
    pairwiseCompat (all.filter (fun h => h.name != d)) = true := by
  simp only [compatExcept, pairwiseCompat, List.all_eq_true, List.mem_filter, Bool.or_eq_true, List.any_eq_true,
    Bool.and_eq_true, beq_iff_eq, bne_iff_ne, and_imp] at ht hd ⊢
  intro a ha hna b hb hnb
  rcases ht a ha b hb with h | ⟨p, hp, h⟩
  · exact h
  · -- an excepted pair names both `a` and `b`, and one of its names is `d`
    exfalso
    rcases hd p hp with e | e <;> rcases h with ⟨h1, h2⟩ | ⟨h1, h2⟩
    · exact hna (h1.trans e)
    · exact hnb (h2.trans e)
    · exact hnb (h2.trans e)
    · exact hna (h1.trans e)

theorem keysSorted_tail (p : Nat × Nat) (l : List (Nat × Nat)) (h : keysSorted (p :: l) = true) :
    keysSorted l = true ∧ ∀ q ∈ l, p.1 < q.1 := by
  induction l generalizing p with
  | nil => exact ⟨rfl, fun _ hq => nomatch hq⟩
  | cons q rest ih =>
    simp only [keysSorted, Bool.and_eq_true, decide_eq_true_eq] at h
    refine ⟨h.2, fun r hr => ?_⟩
    rcases List.mem_cons.mp hr with rfl | h1
    · exact h.1
    · exact Nat.lt_trans h.1 ((ih q h.2).2 r h1)

theorem keysSorted_head_le (p : Nat × Nat) (l : List (Nat × Nat)) (h : keysSorted (p :: l) = true) :
    ∀ q ∈ p :: l, p.1 ≤ q.1 := fun q hq => by
  rcases List.mem_cons.mp hq with rfl | hq
  · exact Nat.le_refl _
  · exact Nat.le_of_lt ((keysSorted_tail p l h).2 q hq)

theorem keysSorted_unique (l : List (Nat × Nat)) (hs : keysSorted l = true) (n m m' : Nat)
    (h : (n, m) ∈ l) (h' : (n, m') ∈ l) : m = m' := by
  induction l with
  | nil => cases h
  | cons p rest ih =>
    obtain ⟨hr, hlt⟩ := keysSorted_tail p rest hs
    rcases List.mem_cons.mp h with rfl | h <;> rcases List.mem_cons.mp h' with e | h'
    · cases e; rfl
    · exact absurd (hlt _ h') (Nat.lt_irrefl _)
    · rw [← e] at hlt; exact absurd (hlt _ h) (Nat.lt_irrefl _)
    · exact ih hr h h'

theorem mergeClash_sound : ∀ (fuel : Nat) (a b : List (Nat × Nat)),
    keysSorted a = true → keysSorted b = true → mergeClash fuel a b = false →
    ∀ n m m', (n, m) ∈ a → (n, m') ∈ b → m = m' := by
  intro fuel a b
  fun_induction mergeClash fuel a b with
  | case1 => intro _ _ h; cases h
  | case2 => intro _ _ _ _ _ _ h; cases h
  | case3 => intro _ _ _ _ _ _ _ h; cases h
  | case4 f k1 v1 r1 k2 v2 r2 h12 ih =>
    -- `k1` is below every key of `b`
    intro ha hb h n m m' hma hmb
    rcases List.mem_cons.mp hma with e | e
    · cases e; exact absurd (keysSorted_head_le _ _ hb _ hmb) (Nat.not_le_of_lt h12)
    · exact ih (keysSorted_tail _ _ ha).1 hb h n m m' e hmb
  | case5 f k1 v1 r1 k2 v2 r2 h12 h21 ih =>
    intro ha hb h n m m' hma hmb
    rcases List.mem_cons.mp hmb with e | e
    · cases e; exact absurd (keysSorted_head_le _ _ ha _ hma) (Nat.not_le_of_lt h21)
    · exact ih ha (keysSorted_tail _ _ hb).1 h n m m' hma e
  | case6 f k1 v1 r1 k2 v2 r2 h12 h21 ih =>
    intro ha hb h n m m' hma hmb
    obtain ⟨hsa, hla⟩ := keysSorted_tail _ _ ha
    obtain ⟨hsb, hlb⟩ := keysSorted_tail _ _ hb
    simp only [Bool.or_eq_false_iff, bne_eq_false_iff_eq] at h
    rcases List.mem_cons.mp hma with e | e <;> rcases List.mem_cons.mp hmb with e' | e'
    · cases e; cases e'; exact h.1
    · cases e; have := hlb _ e'; simp only at this; omega
    · cases e'; have := hla _ e; simp only at this; omega
    · exact ih hsa hsb h.2 n m m' e e'

theorem natsSorted_eq_keysSorted (c : Nat) (l : List Nat) : keysSorted (l.map (·, c)) = natsSorted l := by
  fun_induction natsSorted l with
  | case1 | case2 => rfl
  | case3 a b rest ih => rw [← ih]; rfl

/-- the intersection test is the clash test on tables that disagree on every name -/
theorem meets_eq_mergeClash (fuel : Nat) (xs ys : List Nat) :
    meets fuel xs ys = mergeClash fuel (xs.map (·, 0)) (ys.map (·, 1)) := by
  fun_induction meets fuel xs ys with
  | case3 f xs h => cases xs with
    | nil => exact absurd rfl h
    | cons => rfl
  | _ => simp [mergeClash, *]

theorem meets_sound : ∀ (fuel : Nat) (xs ys : List Nat),
    natsSorted xs = true → natsSorted ys = true → meets fuel xs ys = false →
    ∀ n, n ∈ xs → n ∈ ys → False := by
  intro fuel xs ys hx hy h n hnx hny
  rw [meets_eq_mergeClash] at h
  rw [← natsSorted_eq_keysSorted 0] at hx
  rw [← natsSorted_eq_keysSorted 1] at hy
  cases mergeClash_sound fuel _ _ hx hy h n 0 1 (List.mem_map.mpr ⟨n, hnx, rfl⟩) (List.mem_map.mpr ⟨n, hny, rfl⟩)

/-- every table is sorted (the form the merges rely on) -/
def sortedAll (all : List Hdr) : Bool :=
  all.all (fun a => keysSorted a.intro && natsSorted a.macros && natsSorted a.uses)

/-- What compatibility means, spelled out: no name with two meanings; no macro of one header
    among the tokens the other uses (unless the other includes it on purpose). -/
theorem compat_meaning (a b : Hdr) (hsa : keysSorted a.intro = true ∧ natsSorted a.macros = true ∧ natsSorted a.uses = true)
    (hsb : keysSorted b.intro = true ∧ natsSorted b.macros = true ∧ natsSorted b.uses = true)
    (h : compat a b = true) :
    (∀ n m m', (n, m) ∈ a.intro → (n, m') ∈ b.intro → m = m') ∧
    (¬ b.deps.contains a.id = true → ∀ n, n ∈ a.macros → n ∈ b.uses → False) ∧
    (¬ a.deps.contains b.id = true → ∀ n, n ∈ b.macros → n ∈ a.uses → False) := by
  simp only [compat, Bool.and_eq_true, Bool.not_eq_true'] at h
  obtain ⟨⟨hc, hr1⟩, hr2⟩ := h
  refine ⟨mergeClash_sound _ _ _ hsa.1 hsb.1 hc, ?_, ?_⟩
  · intro hd
    simp only [rewrites, Bool.and_eq_false_iff, Bool.not_eq_false'] at hr1
    rcases hr1 with h' | h'
    · exact absurd h' hd
    · exact meets_sound _ _ _ hsa.2.1 hsb.2.2 h'
  · intro hd
    simp only [rewrites, Bool.and_eq_false_iff, Bool.not_eq_false'] at hr2
    rcases hr2 with h' | h'
    · exact absurd h' hd
    · exact meets_sound _ _ _ hsb.2.1 hsa.2.2 h'

/-- **C20 (meaning).** In such a selection every name means what it means in the header that
    introduces it: whichever definition the lookup meets first, it is the same meaning. -/
theorem meaning_preserved (all : List Hdr) (hc : pairwiseCompat all = true) (hso : sortedAll all = true)
    (hs : List Hdr) (hmem : ∀ h ∈ hs, h ∈ all) (hids : ∀ a ∈ all, ∀ b ∈ all, a.id = b.id → a = b)
    (h : Hdr) (hh : h ∈ hs) (n m : Nat) (hn : (n, m) ∈ h.intro) :
    meaningIn hs n = some m := by
  unfold meaningIn
  obtain ⟨m', hm'⟩ := lookupNat_isSome_of_mem (hs.flatMap (·.intro)) n m
    (List.mem_flatMap.mpr ⟨h, hh, hn⟩)
  rw [hm']
  obtain ⟨h', hh', hin'⟩ := List.mem_flatMap.mp (lookupNat_mem _ _ _ hm')
  simp only [sortedAll, List.all_eq_true, Bool.and_eq_true] at hso
  have s1 := hso h' (hmem h' hh')
  have s2 := hso h (hmem h hh)
  simp only [pairwiseCompat, List.all_eq_true, Bool.or_eq_true, beq_iff_eq] at hc
  rcases hc h' (hmem h' hh') h (hmem h hh) with hid | hcp
  · cases hids h' (hmem h' hh') h (hmem h hh) hid
    rw [keysSorted_unique _ s1.1.1 n m' m hin' hn]
  · rw [(compat_meaning h' h ⟨s1.1.1, s1.1.2, s1.2⟩ ⟨s2.1.1, s2.1.2, s2.2⟩ hcp).1 n m' m hin' hn]

/-- headers with equal ids have equal names (what the regenerated data is checked for; `meaning_preserved`
    asks for more: equal ids, equal headers) -/
def idsDistinct (all : List Hdr) : Bool :=
  all.all (fun a => all.all (fun b => a.id != b.id || a.name == b.name))

def toyA : Hdr := ⟨0, "a.h", [(1, 10), (2, 20)], [1], [3], [], []⟩
def toyB : Hdr := ⟨1, "b.h", [(2, 20), (4, 40)], [], [5], [], []⟩
example : pairwiseCompat [toyA, toyB] = true ∧ includeAll [toyB, toyA] = some [toyB, toyA]
    ∧ meaningIn [toyB, toyA] 2 = some 20 := by decide
/-- and an incompatible pair: `c.h` defines name 2 differently -/
def toyC : Hdr := ⟨2, "c.h", [(2, 21)], [], [], [], []⟩
example : compat toyA toyC = false ∧ includeAll [toyA, toyC] = none := by decide

end O1722
