/-
  C01 (field reads) and C02 (field writes), in two layers:

  * about the model of Utils.c alone: for EVERY valid descriptor, EVERY memory, EVERY base
    address, EVERY value and BOTH host byte orders;
  * about a whole header format: a decidable check `checkC01 spec gen` / `checkC02 spec gen`
    relating the hand-written wire layout (Spec) to the data regenerated from the C source
    (Gen), and a soundness theorem saying that when the check evaluates to `true` every
    accessor of the format reads/writes exactly the standard's bit range.
-/
import O1722.Spec.Formats
import O1722.Model.Format
import O1722.Lemmas.Get
import O1722.Lemmas.Set

namespace O1722
open Spec

/-- On all arguments (NULL, identifiers outside the table); the right-hand side mentions neither the
    loop nor `e`. -/
theorem getField_total (e : Endian) (tbl : List Desc) (n : Nat) (m : Mem) (pdu : Option Nat) (i : Nat)
    (hv : ∀ d, tbl[i]? = some d → d.Valid) :
    getField e tbl n m pdu i = match pdu, (if i < n then tbl[i]? else none) with
      | some p, some d => specGet m p d.start d.bits
      | _, _ => 0 := by
  unfold getField getFieldLog
  cases pdu with
  | none => rfl
  | some p =>
    by_cases hi : i < n
    · simp only [hi]
      cases hrow : tbl[i]? with
      | none => rfl
      | some d => exact getLoop_eq_specGet e d (hv d hrow) m p
    · simp only [hi, if_false]

theorem setField_total (e : Endian) (tbl : List Desc) (n : Nat) (m : Mem) (pdu : Option Nat) (i v : Nat)
    (hv : ∀ d, tbl[i]? = some d → d.Valid) :
    setField e tbl n m pdu i v = match pdu, (if i < n then tbl[i]? else none) with
      | some p, some d => specSet m p d.start d.bits (v % 2 ^ 64)
      | _, _ => m := by
  unfold setField setFieldLog
  cases pdu with
  | none => rfl
  | some p =>
    by_cases hi : i < n
    · simp only [hi]
      cases hrow : tbl[i]? with
      | none => rfl
      | some d => exact setLoop_eq_specSet e d (hv d hrow) m p _
    · simp only [hi, if_false]

/-- **C01 (generic reader).** For every descriptor the reader accepts, `Avtp_GetField`
    returns exactly the field's wire bits, MSB first, whatever the buffer holds, wherever it
    lies and whatever the host byte order. -/
theorem getField_spec (e : Endian) (tbl : List Desc) (n : Nat) (m : Mem) (pdu i : Nat) (d : Desc)
    (hi : i < n) (hrow : tbl[i]? = some d) (hd : d.Valid) :
    getField e tbl n m (some pdu) i = specGet m pdu d.start d.bits := by
  rw [getField_total e tbl n m (some pdu) i fun _ h => Option.some.inj (hrow.symm.trans h) ▸ hd]
  simp only [hi, if_true, hrow]

theorem getField_depends_only_on_field (e : Endian) (tbl : List Desc) (n : Nat) (m₁ m₂ : Mem)
    (pdu i : Nat) (d : Desc) (hi : i < n) (hrow : tbl[i]? = some d) (hd : d.Valid)
    (h : ∀ j, d.start ≤ j → j < d.start + d.bits → wireBit m₁ pdu j = wireBit m₂ pdu j) :
    getField e tbl n m₁ (some pdu) i = getField e tbl n m₂ (some pdu) i := by
  rw [getField_spec e tbl n m₁ pdu i d hi hrow hd, getField_spec e tbl n m₂ pdu i d hi hrow hd]
  exact specGet_congr m₁ m₂ pdu d.start d.bits h

/-- **C02 (generic writer).** `Avtp_SetField` performs exactly the reference write of
    `v mod 2^64` (the parameter is a `uint64_t`). -/
theorem setField_spec (e : Endian) (tbl : List Desc) (n : Nat) (m : Mem) (pdu i v : Nat) (d : Desc)
    (hi : i < n) (hrow : tbl[i]? = some d) (hd : d.Valid) :
    setField e tbl n m (some pdu) i v = specSet m pdu d.start d.bits (v % 2 ^ 64) := by
  rw [setField_total e tbl n m (some pdu) i v fun _ h => Option.some.inj (hrow.symm.trans h) ▸ hd]
  simp only [hi, if_true, hrow]

theorem specSet_mod (m : Mem) (pdu s w v : Nat) :
    specSet m pdu s w (v % 2 ^ w) = specSet m pdu s w v := by
  apply mem_ext_wire _ _ pdu
  · intro a ha; rw [specSet_below _ _ _ _ _ _ ha, specSet_below _ _ _ _ _ _ ha]
  · intro i
    rw [specSet_bits, specSet_bits]
    by_cases h : s ≤ i ∧ i < s + w
    · rw [if_pos h, if_pos h, Nat.testBit_mod_two_pow, decide_eq_true (by omega), Bool.true_and]
    · rw [if_neg h, if_neg h]

theorem specSet_mod64 (m : Mem) (pdu s w v : Nat) (hw : w ≤ 64) :
    specSet m pdu s w (v % 2 ^ 64) = specSet m pdu s w v := by
  rw [← specSet_mod m pdu s w (v % 2 ^ 64), ← specSet_mod m pdu s w v]
  congr 1
  exact Nat.mod_mod_of_dvd v (Nat.pow_dvd_pow 2 hw)

theorem specGet_specSet (m : Mem) (pdu s w v : Nat) :
    specGet (specSet m pdu s w v) pdu s w = v % 2 ^ w := by
  apply Nat.eq_of_testBit_eq; intro j
  rw [specGet_testBit, Nat.testBit_mod_two_pow, specSet_bits]
  by_cases hj : j < w
  · have h1 : s ≤ s + w - 1 - j ∧ s + w - 1 - j < s + w := by omega
    have h2 : s + w - 1 - (s + w - 1 - j) = j := by omega
    rw [if_pos h1, h2]
  · simp [hj]

theorem specGet_specSet_disjoint (m : Mem) (pdu s w v s' w' : Nat)
    (h : s' + w' ≤ s ∨ s + w ≤ s') :
    specGet (specSet m pdu s w v) pdu s' w' = specGet m pdu s' w' := by
  apply specGet_congr
  intro i h1 h2
  rw [specSet_bits, if_neg (by omega)]

/-- **C02 (read after write)** at the level of Utils.c. -/
theorem getField_setField (e : Endian) (tbl : List Desc) (n : Nat) (m : Mem) (pdu i v : Nat)
    (d : Desc) (hi : i < n) (hrow : tbl[i]? = some d) (hd : d.Valid) :
    getField e tbl n (setField e tbl n m (some pdu) i v) (some pdu) i = v % 2 ^ d.bits := by
  rw [getField_spec e tbl n _ pdu i d hi hrow hd, setField_spec e tbl n m pdu i v d hi hrow hd,
    specSet_mod64 _ _ _ _ _ hd.2.1, specGet_specSet]

def rowFor (g : GenFormat) (fs : FieldSpec) : Option (Nat × Desc) :=
  match g.enumValue fs.enumName with
  | some i => match g.table[i]? with
    | some d => some (i, d)
    | none => none
  | none => none

/-- A zero-width field denotes no bits, wherever it nominally starts. -/
def descMatches (d : Desc) (fs : FieldSpec) : Bool :=
  decide d.Valid && (d.bits == fs.width && (fs.width == 0 || d.start == fs.first))

def tableArgsOK (g : GenFormat) (table : String) (numFields : Nat) : Bool :=
  table == g.tableName && numFields == g.table.length

def checkGenericGet (g : GenFormat) (fs : FieldSpec) : Bool :=
  match rowFor g fs with
  | some (i, d) =>
    descMatches d fs && !g.genericGetters.isEmpty &&
      g.genericGetters.all (fun x => tableArgsOK g x.table x.numFields && decide (i < x.numFields)
        && decide (i < 2 ^ x.fieldCastBits) && decide (fs.width ≤ x.retBits))
  | none => false

def checkDedicatedGet (s : FormatSpec) (g : GenFormat) (x : Getter) : Bool :=
  match x.field with
  | none => true
  | some (en, v) =>
    s.fields.any (fun fs => fs.acc != "" && s.getterName fs == x.fn && fs.enumName == en &&
      match rowFor g fs with
      | some (i, d) => i == v && descMatches d fs && tableArgsOK g x.table x.numFields
          && decide (i < x.numFields) && decide (fs.width ≤ x.retBits)
      | none => false)

/-- Every identifier of the enumeration (except the count) is a Spec field and vice versa;
    no function of the file has a shape the translator did not recognise. -/
def checkNames (s : FormatSpec) (g : GenFormat) : Bool :=
  g.enumerators.all (fun (n, _) => n == s.maxEnum || s.fields.any (fun fs => fs.enumName == n))
    && s.fields.all (fun fs => (g.enumValue fs.enumName).isSome)
    && g.opaqueFns.isEmpty

def checkC01 (s : FormatSpec) (g : GenFormat) : Bool :=
  s.fields.all (checkGenericGet g) && g.getters.all (checkDedicatedGet s g) && checkNames s g
    && s.fields.all (fun fs => fs.acc == "" || (g.findGetter (s.getterName fs)).isSome)

theorem descMatches_get (d : Desc) (fs : FieldSpec) (h : descMatches d fs = true) (m : Mem) (pdu : Nat) :
    d.Valid ∧ specGet m pdu d.start d.bits = specGet m pdu fs.first fs.width := by
  simp only [descMatches, Bool.and_eq_true, decide_eq_true_eq, beq_iff_eq, Bool.or_eq_true] at h
  obtain ⟨hv, hb, hs⟩ := h
  refine ⟨hv, ?_⟩
  rcases hs with h0 | h1
  · rw [hb, h0]; rfl
  · rw [hb, h1]

theorem rowFor_some (g : GenFormat) (fs : FieldSpec) (i : Nat) (d : Desc)
    (h : rowFor g fs = some (i, d)) : g.enumValue fs.enumName = some i ∧ g.table[i]? = some d := by
  unfold rowFor at h
  split at h
  · rename_i j hj
    split at h
    · rename_i d' hd'
      obtain ⟨rfl, rfl⟩ := h
      exact ⟨hj, hd'⟩
    · cases h
  · cases h

theorem mem_genericGetters {g : GenFormat} {x : Getter} :
    x ∈ g.genericGetters ↔ x ∈ g.getters ∧ x.field = none := by
  simp [GenFormat.genericGetters]

theorem Getter.run_of_row {g : GenFormat} {fs : FieldSpec} {i : Nat} {d : Desc}
    (hrow : rowFor g fs = some (i, d)) (hm : descMatches d fs = true) (x : Getter) (arg : Nat)
    (ha : fieldArg x.field x.fieldCastBits arg = i) (hi : i < x.numFields) (hw : fs.width ≤ x.retBits)
    (e : Endian) (m : Mem) (pdu : Nat) :
    x.run g.table e m (some pdu) arg = specGet m pdu fs.first fs.width := by
  obtain ⟨hv, hs⟩ := descMatches_get d fs hm m pdu
  rw [Getter.run, ha, getField_spec e g.table x.numFields m pdu i d hi (rowFor_some g fs i d hrow).2 hv, hs]
  exact Nat.mod_eq_of_lt (Nat.lt_of_lt_of_le (specGet_lt m pdu fs.first fs.width)
    (Nat.pow_le_pow_right (by decide) hw))

/-- **C01, generic path, per field.** -/
theorem genericGet_sound (g : GenFormat) (fs : FieldSpec) (h : checkGenericGet g fs = true) :
    ∃ i, g.enumValue fs.enumName = some i ∧ i < g.table.length ∧
      ∀ x ∈ g.genericGetters, ∀ (e : Endian) (m : Mem) (pdu : Nat),
        x.run g.table e m (some pdu) i = specGet m pdu fs.first fs.width := by
  unfold checkGenericGet at h
  split at h
  · rename_i i d hrow
    simp only [Bool.and_eq_true, List.all_eq_true, decide_eq_true_eq] at h
    obtain ⟨hen, htab⟩ := rowFor_some g fs i d hrow
    refine ⟨i, hen, (List.getElem?_eq_some_iff.mp htab).1, fun x hx => ?_⟩
    obtain ⟨⟨⟨_, hi⟩, hc⟩, hw⟩ := h.2 x hx
    refine Getter.run_of_row hrow h.1.1 x i ?_ hi hw
    rw [(mem_genericGetters.mp hx).2]
    exact Nat.mod_eq_of_lt hc
  · cases h

/-- **C01, dedicated path, per getter.** The getter whose *name* denotes Spec field `fs`
    returns exactly `fs`'s bits as a complete value (no truncation by the return type). -/
theorem dedicatedGet_sound (s : FormatSpec) (g : GenFormat) (x : Getter)
    (hx : x.field.isSome = true) (h : checkDedicatedGet s g x = true) :
    ∃ fs ∈ s.fields, s.getterName fs = x.fn ∧
      ∀ (e : Endian) (m : Mem) (pdu arg : Nat),
        x.run g.table e m (some pdu) arg = specGet m pdu fs.first fs.width := by
  unfold checkDedicatedGet at h
  split at h
  · rename_i hnone; rw [hnone] at hx; cases hx
  · rename_i en v hf
    simp only [List.any_eq_true] at h
    obtain ⟨fs, hfs, hcond⟩ := h
    simp only [Bool.and_eq_true, beq_iff_eq] at hcond
    obtain ⟨⟨⟨_, hname⟩, _⟩, hrow⟩ := hcond
    refine ⟨fs, hfs, hname, ?_⟩
    split at hrow
    · rename_i i d hr
      simp only [Bool.and_eq_true, beq_iff_eq, decide_eq_true_eq] at hrow
      obtain ⟨⟨⟨⟨hiv, hm⟩, _⟩, hi⟩, hw⟩ := hrow
      exact fun e m pdu arg => Getter.run_of_row hr hm x arg (by rw [hf]; exact hiv.symm) hi hw e m pdu
    · cases hrow

/-- **C01 for a whole format.** If the decidable check holds for the regenerated data then
    (1) every Spec field read by identifier through every generic reader of the format, and
    (2) every dedicated getter, return exactly the standard's bit range. -/
theorem C01_format (s : FormatSpec) (g : GenFormat) (h : checkC01 s g = true) :
    (∀ fs ∈ s.fields, ∃ i, g.enumValue fs.enumName = some i ∧
        ∀ x ∈ g.genericGetters, ∀ (e : Endian) (m : Mem) (pdu : Nat),
          x.run g.table e m (some pdu) i = specGet m pdu fs.first fs.width) ∧
    (∀ x ∈ g.getters, x.field.isSome = true → ∃ fs ∈ s.fields, s.getterName fs = x.fn ∧
        ∀ (e : Endian) (m : Mem) (pdu arg : Nat),
          x.run g.table e m (some pdu) arg = specGet m pdu fs.first fs.width) := by
  simp only [checkC01, Bool.and_eq_true, List.all_eq_true] at h
  obtain ⟨⟨⟨h1, h2⟩, _⟩, _⟩ := h
  exact ⟨fun fs hfs => let ⟨i, hi, _, hrun⟩ := genericGet_sound g fs (h1 fs hfs); ⟨i, hi, hrun⟩,
    fun x hx hsome => dedicatedGet_sound s g x hsome (h2 x hx)⟩

def checkGenericSet (g : GenFormat) (fs : FieldSpec) : Bool :=
  match rowFor g fs with
  | some (i, d) =>
    descMatches d fs && !g.genericSetters.isEmpty &&
      g.genericSetters.all (fun x => tableArgsOK g x.table x.numFields && decide (i < x.numFields)
        && decide (i < 2 ^ x.fieldCastBits) && x.valueBits == 64 && !x.valueSigned)
  | none => false

def checkDedicatedSet (s : FormatSpec) (g : GenFormat) (x : Setter) : Bool :=
  match x.field with
  | none => true
  | some (en, v) =>
    s.fields.any (fun fs => fs.acc != "" && s.setterName fs == x.fn && fs.enumName == en &&
      match rowFor g fs with
      | some (i, d) => i == v && descMatches d fs && tableArgsOK g x.table x.numFields
          && decide (i < x.numFields) && decide (fs.width ≤ x.valueBits) && decide (x.valueBits ≤ 64)
          && !x.valueSigned
      | none => false)

def checkC02 (s : FormatSpec) (g : GenFormat) : Bool :=
  s.fields.all (checkGenericSet g) && g.setters.all (checkDedicatedSet s g) && checkNames s g
    && s.fields.all (fun fs => fs.acc == "" || (g.findSetter (s.setterName fs)).isSome)

theorem descMatches_set (d : Desc) (fs : FieldSpec) (h : descMatches d fs = true) (m : Mem) (pdu v : Nat) :
    d.Valid ∧ d.bits = fs.width ∧ specSet m pdu d.start d.bits v = specSet m pdu fs.first fs.width v := by
  simp only [descMatches, Bool.and_eq_true, decide_eq_true_eq, beq_iff_eq, Bool.or_eq_true] at h
  obtain ⟨hv, hb, hs⟩ := h
  refine ⟨hv, hb, ?_⟩
  rcases hs with h0 | h1
  · rw [h0]
    apply mem_ext_wire _ _ pdu
    · intro a ha; rw [specSet_below _ _ _ _ _ _ ha, specSet_below _ _ _ _ _ _ ha]
    · intro i; rw [specSet_bits, specSet_bits, if_neg (by omega), if_neg (by omega)]
  · rw [hb, h1]

theorem mem_genericSetters {g : GenFormat} {x : Setter} :
    x ∈ g.genericSetters ↔ x ∈ g.setters ∧ x.field = none := by
  simp [GenFormat.genericSetters]

theorem Setter.run_of_row {g : GenFormat} {fs : FieldSpec} {i : Nat} {d : Desc}
    (hrow : rowFor g fs = some (i, d)) (hm : descMatches d fs = true) (x : Setter) (arg : Nat)
    (ha : fieldArg x.field x.fieldCastBits arg = i) (hi : i < x.numFields)
    (e : Endian) (m : Mem) (pdu v : Nat) (hv : v < 2 ^ x.valueBits) :
    x.run g.table e m (some pdu) arg v = specSet m pdu fs.first fs.width (v % 2 ^ fs.width) := by
  obtain ⟨hd, _, hs⟩ := descMatches_set d fs hm m pdu (v % 2 ^ x.valueBits)
  rw [Setter.run, ha, setField_spec e g.table x.numFields m pdu i _ d hi (rowFor_some g fs i d hrow).2 hd,
    specSet_mod64 _ _ _ _ _ hd.2.1, hs, Nat.mod_eq_of_lt hv, specSet_mod]

/-- **C02, generic path, per field**: the write stores `v mod 2^width` in exactly the
    field's standard bit range (everything else is untouched by `specSet_bits` /
    `specSet_frame`), for every 64-bit value `v`. -/
theorem genericSet_sound (g : GenFormat) (fs : FieldSpec) (h : checkGenericSet g fs = true) :
    ∃ i, g.enumValue fs.enumName = some i ∧ i < g.table.length ∧
      ∀ x ∈ g.genericSetters, ∀ (e : Endian) (m : Mem) (pdu v : Nat), v < 2 ^ 64 →
        x.run g.table e m (some pdu) i v = specSet m pdu fs.first fs.width (v % 2 ^ fs.width) := by
  unfold checkGenericSet at h
  split at h
  · rename_i i d hrow
    simp only [Bool.and_eq_true, List.all_eq_true, decide_eq_true_eq, beq_iff_eq] at h
    obtain ⟨hen, htab⟩ := rowFor_some g fs i d hrow
    refine ⟨i, hen, (List.getElem?_eq_some_iff.mp htab).1, fun x hx e m pdu v hv64 => ?_⟩
    obtain ⟨⟨⟨⟨_, hi⟩, hc⟩, hvb⟩, _⟩ := h.2 x hx
    refine Setter.run_of_row hrow h.1.1 x i ?_ hi e m pdu v (hvb ▸ hv64)
    rw [(mem_genericSetters.mp hx).2]
    exact Nat.mod_eq_of_lt hc
  · cases h

/-- **C02, dedicated path, per setter**: every value of the parameter type is stored modulo
    the field width, and the parameter type is wide enough for every value that fits the
    field (`fs.width ≤ valueBits` is part of the check). -/
theorem dedicatedSet_sound (s : FormatSpec) (g : GenFormat) (x : Setter)
    (hx : x.field.isSome = true) (h : checkDedicatedSet s g x = true) :
    ∃ fs ∈ s.fields, fs.acc ≠ "" ∧ s.setterName fs = x.fn ∧ fs.width ≤ x.valueBits ∧
      ∀ (e : Endian) (m : Mem) (pdu arg v : Nat), v < 2 ^ x.valueBits →
        x.run g.table e m (some pdu) arg v = specSet m pdu fs.first fs.width (v % 2 ^ fs.width) := by
  unfold checkDedicatedSet at h
  split at h
  · rename_i hnone; rw [hnone] at hx; cases hx
  · rename_i en v0 hf
    simp only [List.any_eq_true] at h
    obtain ⟨fs, hfs, hcond⟩ := h
    simp only [Bool.and_eq_true, beq_iff_eq, bne_iff_ne] at hcond
    obtain ⟨⟨⟨hacc, hname⟩, _⟩, hrow⟩ := hcond
    split at hrow
    · rename_i i d hr
      simp only [Bool.and_eq_true, beq_iff_eq, decide_eq_true_eq] at hrow
      obtain ⟨⟨⟨⟨⟨⟨hiv, hm⟩, _⟩, hi⟩, hw⟩, _⟩, _⟩ := hrow
      exact ⟨fs, hfs, hacc, hname, hw, fun e m pdu arg =>
        Setter.run_of_row hr hm x arg (by rw [hf]; exact hiv.symm) hi e m pdu⟩
    · cases hrow

/-- **C02 for a whole format.** -/
theorem C02_format (s : FormatSpec) (g : GenFormat) (h : checkC02 s g = true) :
    (∀ fs ∈ s.fields, ∃ i, g.enumValue fs.enumName = some i ∧
        ∀ x ∈ g.genericSetters, ∀ (e : Endian) (m : Mem) (pdu v : Nat), v < 2 ^ 64 →
          x.run g.table e m (some pdu) i v
            = specSet m pdu fs.first fs.width (v % 2 ^ fs.width)) ∧
    (∀ x ∈ g.setters, x.field.isSome = true → ∃ fs ∈ s.fields, fs.acc ≠ "" ∧ s.setterName fs = x.fn ∧
        fs.width ≤ x.valueBits ∧
        ∀ (e : Endian) (m : Mem) (pdu arg v : Nat), v < 2 ^ x.valueBits →
          x.run g.table e m (some pdu) arg v
            = specSet m pdu fs.first fs.width (v % 2 ^ fs.width)) := by
  simp only [checkC02, Bool.and_eq_true, List.all_eq_true] at h
  obtain ⟨⟨⟨h1, h2⟩, _⟩, _⟩ := h
  exact ⟨fun fs hfs => let ⟨i, hi, _, hrun⟩ := genericSet_sound g fs (h1 fs hfs); ⟨i, hi, hrun⟩,
    fun x hx hsome => dedicatedSet_sound s g x hsome (h2 x hx)⟩

example : (⟨3, 3, 29⟩ : Desc).Valid := by decide
example : (⟨1, 0, 64⟩ : Desc).Valid ∧ (⟨0, 31, 64⟩ : Desc).Valid ∧ (⟨255, 31, 1⟩ : Desc).Valid := by decide
example : ¬ (⟨255, 31, 2⟩ : Desc).Valid := by decide

/-! ### named atoms of the checks (evaluated executably by the tooling to say *which*
    obligation fails; the kernel-checked obligation is the conjunction above) -/

def atomsC01 (s : FormatSpec) (g : GenFormat) : List (String × Bool) :=
  s.fields.map (fun fs => ("generic-get:" ++ fs.enumName, checkGenericGet g fs))
  ++ (g.getters.filter (·.field.isSome)).map (fun x => ("dedicated-get:" ++ x.fn, checkDedicatedGet s g x))
  ++ [("names", checkNames s g)]
  ++ s.fields.filterMap (fun fs => if fs.acc == "" then none else
        some ("has-getter:" ++ s.getterName fs, (g.findGetter (s.getterName fs)).isSome))

def atomsC02 (s : FormatSpec) (g : GenFormat) : List (String × Bool) :=
  s.fields.map (fun fs => ("generic-set:" ++ fs.enumName, checkGenericSet g fs))
  ++ (g.setters.filter (·.field.isSome)).map (fun x => ("dedicated-set:" ++ x.fn, checkDedicatedSet s g x))
  ++ [("names", checkNames s g)]
  ++ s.fields.filterMap (fun fs => if fs.acc == "" then none else
        some ("has-setter:" ++ s.setterName fs, (g.findSetter (s.setterName fs)).isSome))

end O1722
