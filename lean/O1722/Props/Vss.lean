/-
  About the Model of the VSS functions: C09 (finalisation), C07 (encoding), C08 (decoding /
  length-query convention), C10 (string-array packing).
-/
import O1722.Props.Can
import O1722.Lemmas.Holds

namespace O1722
open Spec

/-! ## C09 — Avtp_Vss_Pad -/

theorem vss_layout :
    Spec.vss.fieldNamed "ACF_MSG_LENGTH" = some ⟨"AVTP_VSS_FIELD_ACF_MSG_LENGTH", "AcfMsgLength", 7, 9⟩
    ∧ Spec.vss.fields[1]? = some ⟨"AVTP_VSS_FIELD_ACF_MSG_LENGTH", "AcfMsgLength", 7, 9⟩
    ∧ Spec.vss.fieldNamed "PAD" = some ⟨"AVTP_VSS_FIELD_PAD", "Pad", 16, 2⟩
    ∧ Spec.vss.fields[2]? = some ⟨"AVTP_VSS_FIELD_PAD", "Pad", 16, 2⟩ := by decide +kernel

/-- The Model of `Avtp_Vss_Pad` with a byte-granular `memset` destination (scale 1) is
    "zero the pad bytes, then two header writes". -/
theorem vssPad_hist (m : Mem) (pdu len : Nat) (hl : len < 2 ^ 16) :
    vssPad 1 m pdu len =
      runRev Spec.vss pdu (zeroFill m (pdu + len) (padOf len))
        [.set 2 (padOf len % 2 ^ 64), .set 1 ((len + padOf len) / 4 % 2 ^ 64)] := by
  obtain ⟨h1, h2, h3, h4⟩ := vss_layout
  unfold vssPad
  have e0 : len % 2 ^ 16 = len := Nat.mod_eq_of_lt hl
  have e1 : (4 - len % 4) % 4 % 256 = padOf len := by unfold padOf; omega
  simp only [e0, e1, Nat.one_mul]
  have e2 : (if len % 4 ≠ 0 then zeroFill m (pdu + len) (padOf len) else m) = zeroFill m (pdu + len) (padOf len) := by
    by_cases h : len % 4 ≠ 0
    · rw [if_pos h]
    · rw [if_neg h]
      have : padOf len = 0 := by unfold padOf; omega
      rw [this, zeroFill_zero]
  rw [e2, setNamed_eq_set Spec.vss _ pdu "ACF_MSG_LENGTH" _ 1 (h1.trans h2.symm),
    setNamed_eq_set Spec.vss _ pdu "PAD" _ 2 (h3.trans h4.symm)]
  rfl

/-- **C09.** For every message length from the fixed header up to the ACF maximum and every
    prior content, finalising a VSS message (Model, byte-granular destination)
    sets the length field to ⌈len/4⌉ quadlets and the pad field to the number of bytes added,
    zeroes exactly the pad bytes that immediately follow the message, and changes nothing
    else: every other header field, every message byte, everything after the pad. -/
theorem C09_pad (m : Mem) (pdu len : Nat) (h12 : 12 ≤ len) (hmax : len ≤ 2044) :
    let r := vssPad 1 m pdu len
    getNamed Spec.vss r pdu "ACF_MSG_LENGTH" = (len + 3) / 4 ∧
    getNamed Spec.vss r pdu "PAD" = padOf len ∧
    (∀ k, k < padOf len → r (pdu + len + k) = 0) ∧
    (∀ a, (a < pdu ∨ (pdu + 12 ≤ a ∧ a < pdu + len) ∨ pdu + len + padOf len ≤ a) → r a = m a) ∧
    (∀ j fs, Spec.vss.fields[j]? = some fs → j ≠ 1 → j ≠ 2 →
        specGet r pdu fs.first fs.width = specGet m pdu fs.first fs.width) := by
  intro r
  obtain ⟨h1, h2, h3, h4⟩ := vss_layout
  have hpad4 : padOf len < 4 := by unfold padOf; omega
  have hH : Spec.vss.headerLen = 12 := rfl
  obtain ⟨hf, hfr⟩ := history_over Spec.vss vss_disjoint (writesWithin_of_mem (by simp [Spec.all])) pdu m
    (zeroFill m (pdu + len) (padOf len)) (fun a ha => if_neg (by omega))
    [.set 2 (padOf len % 2 ^ 64), .set 1 ((len + padOf len) / 4 % 2 ^ 64)]
  rw [show r = _ from vssPad_hist m pdu len (by omega)]
  refine ⟨?_, ?_, fun k hk => ?_, fun a ha => ?_, fun j fs hj hj1 hj2 => ?_⟩
  · rw [getNamed_eq _ _ _ _ _ h1]
    refine (hf 1 _ h2).trans ?_
    show (len + padOf len) / 4 % 2 ^ 64 % 2 ^ 9 = _
    unfold padOf; omega
  · rw [getNamed_eq _ _ _ _ _ h3]
    refine (hf 2 _ h4).trans ?_
    show padOf len % 2 ^ 64 % 2 ^ 2 = _
    omega
  · exact (hfr _ (.inr (by omega))).trans (if_pos (by omega))
  · exact (hfr _ (by omega)).trans (if_neg (by omega))
  · refine (hf j fs hj).trans (expected_untouched _ _ _ _ _ _ fun op hop => ?_)
    simp only [List.mem_cons, List.not_mem_nil, or_false] at hop
    rcases hop with rfl | rfl
    · exact ⟨_, _, rfl, fun e => hj2 e.symm⟩
    · exact ⟨_, _, rfl, fun e => hj1 e.symm⟩

/-- With the typed pointer (`scale = sizeof(Avtp_Vss_t) = 12`) the zero fill lands
    elsewhere: for a 13-byte message the model zeroes bytes 156..158 instead of 13..15
    (concrete witness; the property fails unless the scale is 1). -/
theorem vssPad_scale12_witness :
    let m : Mem := fun _ => 0xff
    (vssPad 12 m 0 13) 13 = 0xff ∧ (vssPad 12 m 0 13) 156 = 0 := by decide +kernel

example : (12 ≤ 13 ∧ 13 ≤ 2044) ∧ padOf 13 = 3 := by decide

/-! ## C07 / C08 — the VSS codec -/

/-- The caller-side argument of `Avtp_Vss_SetVssPath` for a path value. -/
def cpathOf : VssPath → CPath
  | .interop p => ⟨p.length, p, 0⟩
  | .staticId id => ⟨0, [], id⟩

/-- The caller-side argument of `Avtp_Vss_SetVssData` for a value: scalars by value; strings,
    byte-sized arrays and packed string arrays as (byte length, bytes); wider arrays as
    (byte length, elements). -/
def cvalOf : VssValue → CVal
  | .scalar _ b => .scalar b
  | .string bs => .blob bs.length bs
  | .array t xs =>
    if t.size = 1 then .blob xs.length (xs.map (Fin.ofNat 256)) else .elems (t.size * xs.length) xs
  | .stringArray ss => .blob (packStrings ss).length (packStrings ss)

/-- The value fits the 16-bit byte-length prefix. -/
def Spec.VssValue.fits : VssValue → Prop
  | .scalar _ _ => True
  | .string bs => bs.length < 2 ^ 16
  | .array t xs => t.size * xs.length < 2 ^ 16
  | .stringArray ss => (packStrings ss).length < 2 ^ 16

theorem dtClass_scalar (t : Scalar) : dtClass t.code = .scalar t.size := by cases t <;> decide
theorem dtClass_string : dtClass 0xB = .blob := by decide
theorem dtClass_stringArray : dtClass 0x8B = .blob := by decide
theorem dtClass_array (t : Scalar) :
    dtClass (0x80 + t.code) = if t.size = 1 then .blob else .elems t.size := by cases t <;> decide
theorem scalar_size_cases (t : Scalar) : t.size = 1 ∨ t.size = 2 ∨ t.size = 4 ∨ t.size = 8 := by
  cases t <;> simp [Scalar.size]

/-- **C07 (path).** With the header's address mode matching the path, `Avtp_Vss_SetVssPath`
    (Model, either host byte order) is exactly a write of the reference path encoding right
    after the fixed header — hence nothing else changes. -/
theorem C07_path (e : Endian) (m : Mem) (pdu : Nat) (p : VssPath)
    (hmode : vssAddrMode m pdu = p.addrMode)
    (hlen : match p with | .interop bs => bs.length < 2 ^ 16 | .staticId _ => True) :
    vssSetPath e m pdu (cpathOf p) = m.write (pdu + vssFixedHeader) (encPath p) := by
  unfold vssSetPath
  cases p with
  | staticId id =>
    simp only [hmode, VssPath.addrMode, if_true, cpathOf, encPath, be]
    exact wrBe_eq_write e 4 (by simp) m _ id
  | interop bs =>
    simp only [hmode, VssPath.addrMode, cpathOf, encPath, be, Nat.reduceEqDiff, if_true, if_false]
    exact wrBlob e m _ bs hlen

/-- **C07 (value).** With the header's datatype matching the value, `Avtp_Vss_SetVssData`
    (Model) is exactly a write of the reference value encoding at the position right after
    the path. -/
theorem C07_value (e : Endian) (m : Mem) (pdu : Nat) (v : VssValue)
    (hcode : vssDatatype m pdu = v.code) (hfit : v.fits) :
    vssSetData e m pdu (cvalOf v)
      = m.write (pdu + vssFixedHeader + vssCalcPathLength e m pdu) (encValue v) := by
  unfold vssSetData
  rw [hcode]
  cases v with
  | scalar t b =>
    simp only [VssValue.code, dtClass_scalar, cvalOf, encValue, be]
    exact wrBe_eq_write e t.size (scalar_size_cases t) m _ b
  | string bs | stringArray ss =>
    simp only [VssValue.code, cvalOf, encValue, be, dtClass_string, dtClass_stringArray]
    exact wrBlob e m _ _ hfit
  | array t xs =>
    have hf : t.size * xs.length < 2 ^ 16 := hfit
    simp only [VssValue.code, dtClass_array, cvalOf, encValue, be]
    by_cases h1 : t.size = 1
    · simp only [h1, if_true, Nat.one_mul, flatMap_bytesBE_one] at hf ⊢
      rw [← List.length_map (Fin.ofNat 256)] at hf ⊢
      exact wrBlob e m _ _ hf
    · simp only [h1, if_false]
      have hk := scalar_size_cases t
      rw [Nat.mod_eq_of_lt hf, Nat.mul_div_cancel_left _ (by omega), List.take_length,
        wrElems_eq_write e t.size hk, wrBe_eq_write e 2 (by simp), Mem.write_append, bytesBE_length]

/-- **C07 (reserved).** A reserved address mode makes the path writer, and a reserved
    datatype code the value writer, write nothing. -/
theorem C07_reserved (e : Endian) (m : Mem) (pdu : Nat) :
    (∀ p, 2 ≤ vssAddrMode m pdu → vssSetPath e m pdu p = m) ∧
    (∀ v, dtClass (vssDatatype m pdu) = .reserved → vssSetData e m pdu v = m) := by
  constructor
  · intro p h
    unfold vssSetPath
    rw [if_neg (by omega), if_neg (by omega)]
  · intro v h
    unfold vssSetData
    simp only [h]

theorem calc_write_behind (e : Endian) (m : Mem) (pdu a : Nat) (bs : List Byte)
    (ha : pdu + vssFixedHeader + 2 ≤ a ∨ (vssAddrMode m pdu ≠ 0 ∧ pdu + vssFixedHeader ≤ a)) :
    vssCalcPathLength e (m.write a bs) pdu = vssCalcPathLength e m pdu := by
  have hmode : vssAddrMode (m.write a bs) pdu = vssAddrMode m pdu := by
    exact getNamed_write_behind Spec.vss vss_disjoint _ _ _ _ _ (by show pdu + vssFixedHeader ≤ a; omega)
  unfold vssCalcPathLength
  simp only [hmode]
  by_cases h1 : vssAddrMode m pdu = 1
  · simp [h1]
  · by_cases h0 : vssAddrMode m pdu = 0
    · have ha2 : pdu + vssFixedHeader + 2 ≤ a := by
        rcases ha with h | h
        · exact h
        · exact absurd h0 h.1
      rw [rdBe_congr e 2 _ m _ fun y _ hy => Mem.write_outside _ _ _ _ (Or.inl (by omega))]
    · simp [h1, h0]

/-- **C08 (path size).** On a message holding the reference path encoding, the reported
    on-wire path size is the length of that encoding, for every path the 16-bit length
    prefix can describe. -/
theorem C08_calc (e : Endian) (m : Mem) (pdu : Nat) (p : VssPath)
    (hmode : vssAddrMode m pdu = p.addrMode)
    (hh : holds m (pdu + vssFixedHeader) (encPath p))
    (hlen : match p with | .interop bs => bs.length < 2 ^ 16 | .staticId _ => True) :
    vssCalcPathLength e m pdu = (encPath p).length := by
  unfold vssCalcPathLength
  cases p with
  | staticId id => simp [hmode, VssPath.addrMode, encPath, be, bytesBE_length]
  | interop bs =>
    simp only [hmode, VssPath.addrMode, encPath, be, Nat.reduceEqDiff, if_true, if_false] at hh ⊢
    rw [(rdBlob e m _ bs hlen hh).1, List.length_append, bytesBE_length]
    omega

/-- What `Avtp_Vss_GetVssPath` must deliver for a path. -/
def dpathOf : VssPath → DPath
  | .interop bs => .interop bs.length bs
  | .staticId id => .staticId (id % 2 ^ 32)

/-- **C08 (path).** Decoding the path of a message that holds the reference encoding
    returns the path. -/
theorem C08_path (e : Endian) (m : Mem) (pdu : Nat) (p : VssPath)
    (hmode : vssAddrMode m pdu = p.addrMode)
    (hh : holds m (pdu + vssFixedHeader) (encPath p))
    (hlen : match p with | .interop bs => bs.length < 2 ^ 16 | .staticId _ => True) :
    vssGetPath e m pdu = dpathOf p := by
  unfold vssGetPath
  cases p with
  | staticId id =>
    simp only [hmode, VssPath.addrMode, if_true, encPath, be, dpathOf] at hh ⊢
    rw [rdBe_of_holds e 4 (by simp) m _ _ hh]
  | interop bs =>
    simp only [hmode, VssPath.addrMode, encPath, be, dpathOf, Nat.reduceEqDiff, if_true, if_false] at hh ⊢
    obtain ⟨h1, h2⟩ := rdBlob e m _ bs hlen hh
    rw [h1, read_of_holds h2]

/-- What `Avtp_Vss_GetVssData` must deliver for a value; `dst = false` is the length query. -/
def dvalOf (dst : Bool) : VssValue → DVal
  | .scalar t b => .scalar (b % 2 ^ (8 * t.size))
  | .string bs => .blob bs.length (if dst then some bs else none)
  | .array t xs =>
    if t.size = 1 then .blob xs.length (if dst then some (xs.map (Fin.ofNat 256)) else none)
    else .elems (t.size * xs.length) (if dst then some xs else none)
  | .stringArray ss => .blob (packStrings ss).length (if dst then some (packStrings ss) else none)

def Spec.VssValue.wf : VssValue → Prop
  | .array t xs => ∀ x ∈ xs, x < 2 ^ (8 * t.size)
  | _ => True

/-- **C08 (value).** On a message that holds the reference encoding of `v` right after the
    path, `Avtp_Vss_GetVssData` (Model, either byte order) returns exactly `v` — bit-exact for
    floats and every element; with no destination only the length is reported. -/
theorem C08_value (e : Endian) (m : Mem) (pdu : Nat) (v : VssValue) (dst : Bool)
    (hcode : vssDatatype m pdu = v.code) (hfit : v.fits) (hwf : v.wf)
    (hh : holds m (pdu + vssFixedHeader + vssCalcPathLength e m pdu) (encValue v)) :
    vssGetData e m pdu dst = dvalOf dst v := by
  unfold vssGetData
  rw [hcode]
  cases v with
  | scalar t b =>
    simp only [VssValue.code, dtClass_scalar, encValue, be, dvalOf] at hh ⊢
    rw [rdBe_of_holds e t.size (scalar_size_cases t) m _ _ hh]
  | string bs | stringArray ss =>
    simp only [VssValue.code, dvalOf, dtClass_string, dtClass_stringArray]
    obtain ⟨h1, h2⟩ := rdBlob e m _ _ hfit hh
    rw [h1, read_of_holds h2]
  | array t xs =>
    have hf : t.size * xs.length < 2 ^ 16 := hfit
    have hw : ∀ x ∈ xs, x < 2 ^ (8 * t.size) := hwf
    simp only [VssValue.code, dtClass_array, encValue, be, dvalOf] at hh ⊢
    by_cases hs1 : t.size = 1
    · simp only [hs1, if_true, Nat.one_mul, flatMap_bytesBE_one] at hf hh ⊢
      rw [← List.length_map (Fin.ofNat 256)] at hf hh ⊢
      obtain ⟨h1, h2⟩ := rdBlob e m _ _ hf hh
      rw [h1, read_of_holds h2]
    · simp only [hs1, if_false]
      have hk := scalar_size_cases t
      rw [← flatMap_bytesBE_length] at hf hh
      obtain ⟨h1, h2⟩ := rdBlob e m _ _ hf hh
      rw [h1, flatMap_bytesBE_length, Nat.mul_div_cancel_left _ (by omega),
        rdElems_of_holds e t.size hk m _ xs hw h2]

/-- **C08 (round trip).** Encode-then-decode is the identity on values: decoding what the
    Model of the encoder wrote returns the value that was encoded. -/
theorem C08_roundtrip (e : Endian) (m : Mem) (pdu : Nat) (v : VssValue) (dst : Bool)
    (hcode : vssDatatype m pdu = v.code) (hfit : v.fits) (hwf : v.wf) :
    vssGetData e (vssSetData e m pdu (cvalOf v)) pdu dst = dvalOf dst v := by
  rw [C07_value e m pdu v hcode hfit]
  have hcalc : vssCalcPathLength e (m.write (pdu + vssFixedHeader + vssCalcPathLength e m pdu) (encValue v)) pdu
      = vssCalcPathLength e m pdu := by
    apply calc_write_behind
    by_cases h0 : vssAddrMode m pdu = 0
    · left
      have : vssCalcPathLength e m pdu = rdBe e 2 m (pdu + vssFixedHeader) + 2 := by
        unfold vssCalcPathLength; simp [h0]
      omega
    · right; exact ⟨h0, by omega⟩
  apply C08_value e _ pdu v dst _ hfit hwf
  · rw [hcalc]; exact holds_write _ _ _
  · unfold vssDatatype
    rw [getNamed_write_behind Spec.vss vss_disjoint _ _ _ _ _ (by show pdu + vssFixedHeader ≤ _; omega)]
    exact hcode

example : (VssValue.array .u16 [0, 1, 2, 3, 4, 5]).fits ∧ (VssValue.array .u16 [0, 1, 2, 3, 4, 5]).wf := by
  constructor
  · show 2 * 6 < 2 ^ 16; decide
  · intro x hx; simp at hx; rcases hx with rfl | rfl | rfl | rfl | rfl | rfl <;> decide
/-- the protocol description's own example: uint16[] 0..5 -/
example : encValue (.array .u16 [0, 1, 2, 3, 4, 5])
    = [0x00, 0x0C, 0x00, 0x00, 0x00, 0x01, 0x00, 0x02, 0x00, 0x03, 0x00, 0x04, 0x00, 0x05] := by decide

/-! ## C10 — string arrays -/

/-- Arguments of `Avtp_Vss_SerializeStringArray` for a list of strings. -/
def strArgs (ss : List (List Byte)) : List (Nat × List Byte) := ss.map (fun s => (s.length, s))

theorem packStrings_cons (s : List Byte) (ss : List (List Byte)) :
    packStrings (s :: ss) = bytesBE 2 s.length ++ s ++ packStrings ss := by
  simp [packStrings, List.flatMap_cons, be]

theorem packStrings_cons_length (s : List Byte) (ss : List (List Byte)) :
    (packStrings (s :: ss)).length = 2 + s.length + (packStrings ss).length := by
  rw [packStrings_cons]; simp [bytesBE_length]; omega

theorem holds_packStrings_cons (e : Endian) (m : Mem) (data ptr : Nat) (s : List Byte)
    (rest : List (List Byte)) (hs : s.length < 2 ^ 16)
    (hh : holds m (data + ptr) (packStrings (s :: rest))) :
    rdBe e 2 m (data + ptr) = s.length ∧ holds m (data + ptr + 2) s
      ∧ holds m (data + (ptr + 2 + s.length)) (packStrings rest) := by
  rw [packStrings_cons] at hh
  obtain ⟨h12, h3⟩ := (holds_append m _ _ _).mp hh
  rw [List.length_append, bytesBE_length,
    show data + ptr + (2 + s.length) = data + (ptr + 2 + s.length) by omega] at h3
  exact ⟨(rdBlob e m _ s hs h12).1, (rdBlob e m _ s hs h12).2, h3⟩

theorem serialize_gen (e : Endian) :
    ∀ (ss : List (List Byte)) (m : Mem) (data total : Nat), total + (packStrings ss).length < 2 ^ 16 →
      vssSerialize e m data (strArgs ss) total
        = (m.write data (packStrings ss), total + (packStrings ss).length) := by
  intro ss
  induction ss with
  | nil => intro m data total _; simp [strArgs, vssSerialize, packStrings, Mem.write]
  | cons s rest ih =>
    intro m data total h
    rw [packStrings_cons_length] at h
    have hs : s.length % 2 ^ 16 = s.length := Nat.mod_eq_of_lt (by omega)
    have ht : (total + s.length + 2) % 2 ^ 16 = total + s.length + 2 := Nat.mod_eq_of_lt (by omega)
    have := ih (m.write data (bytesBE 2 s.length ++ s)) (data + s.length + 2) (total + s.length + 2) (by omega)
    simp only [strArgs] at this
    simp only [strArgs, List.map_cons, vssSerialize]
    rw [wrBlob e m data s (by omega), hs, ht, this, packStrings_cons_length, packStrings_cons,
      Mem.write_append m data (_ ++ s), List.length_append, bytesBE_length]
    congr 1
    · congr 1; omega
    · omega

/-- **C10 (packing).** Packing any list of strings whose packed size fits 16 bits writes, at
    the destination, exactly the concatenation in order of a 16-bit big-endian length and the
    bytes of each string — nothing else — and records the total byte length. -/
theorem C10_serialize (e : Endian) (m : Mem) (data : Nat) (ss : List (List Byte))
    (h : (packStrings ss).length < 2 ^ 16) :
    vssSerialize e m data (strArgs ss) 0 = (m.write data (packStrings ss), (packStrings ss).length) := by
  have := serialize_gen e ss m data 0 (by omega)
  simpa using this

theorem count_gen (e : Endian) (m : Mem) (data total : Nat) (ht : total < 2 ^ 16) :
    ∀ (ss : List (List Byte)) (fuel ptr idx : Nat) (log : List Nat),
      holds m (data + ptr) (packStrings ss) → ptr + (packStrings ss).length = total →
      ss.length < fuel → idx + ss.length < 2 ^ 16 →
      (∀ a ∈ log, data ≤ a ∧ a < data + total) →
      (vssCountLoop e m data total fuel ptr idx log).1 = idx + ss.length ∧
      ∀ a ∈ (vssCountLoop e m data total fuel ptr idx log).2, data ≤ a ∧ a < data + total := by
  intro ss
  induction ss with
  | nil =>
    intro fuel ptr idx log _ hp _ _ hlog
    have : ¬ ptr < total := by simp [packStrings] at hp; omega
    cases fuel with
    | zero => exact ⟨rfl, hlog⟩
    | succ f => simp only [vssCountLoop, this, if_false]; exact ⟨rfl, hlog⟩
  | cons s rest ih =>
    intro fuel ptr idx log hh hp hf hi hlog
    rw [packStrings_cons_length] at hp
    obtain ⟨hlen, _, hh'⟩ := holds_packStrings_cons e m data ptr s rest (by omega) hh
    cases fuel with
    | zero => simp at hf
    | succ f =>
      have hlt : ptr < total := by omega
      simp only [vssCountLoop, hlt, if_true, hlen]
      have e1 : (ptr + 2 + s.length) % 2 ^ 16 = ptr + 2 + s.length := Nat.mod_eq_of_lt (by omega)
      have e2 : (idx + 1) % 2 ^ 16 = idx + 1 := Nat.mod_eq_of_lt (by simp at hi; omega)
      rw [e1, e2]
      have := ih f (ptr + 2 + s.length) (idx + 1) (log ++ [data + ptr, data + ptr + 1]) hh' (by omega)
        (by simp at hf; omega) (by simp at hi; omega) (by
          intro a ha
          rcases List.mem_append.mp ha with h | h
          · exact hlog a h
          · simp at h; omega)
      refine ⟨?_, this.2⟩
      rw [this.1]; simp; omega

/-- **C10 (counting).** Counting a packed array returns the number of strings — as a number,
    for up to 32767 strings — and reads only bytes of the array's recorded length. -/
theorem C10_count (e : Endian) (m : Mem) (data : Nat) (ss : List (List Byte))
    (h : (packStrings ss).length < 2 ^ 16) (hh : holds m data (packStrings ss)) :
    (vssCount e 16 m data (packStrings ss).length).1 = ss.length ∧
    ∀ a ∈ (vssCount e 16 m data (packStrings ss).length).2,
      data ≤ a ∧ a < data + (packStrings ss).length := by
  have hcnt : ss.length < 32768 := by
    -- every packed string occupies at least two bytes
    have : ∀ l : List (List Byte), 2 * l.length ≤ (packStrings l).length := by
      intro l; induction l with
      | nil => simp [packStrings]
      | cons x xs ih => rw [packStrings_cons_length]; simp; omega
    have := this ss; omega
  unfold vssCount
  rw [Nat.mod_eq_of_lt h]
  have := count_gen e m data _ h ss 32768 0 0 [] (by simpa using hh) (by simp) hcnt (by omega) (by simp)
  refine ⟨?_, this.2⟩
  simp only [this.1, Nat.zero_add]
  exact Nat.mod_eq_of_lt (by omega)

/-- What unpacking must deliver: per requested destination, the string's length and (if a
    destination was supplied) its bytes — for as many strings as the array holds. -/
def unpackSpec (dsts : List Bool) (ss : List (List Byte)) : List (Nat × Option (List Byte)) :=
  List.zipWith (fun d s => (s.length, if d then some s else none)) dsts ss

theorem deserialize_gen (e : Endian) (m : Mem) (data total : Nat) (ht : total < 2 ^ 16) :
    ∀ (dsts : List Bool) (ss : List (List Byte)) (ptr : Nat),
      holds m (data + ptr) (packStrings ss) → ptr + (packStrings ss).length = total →
      (vssDeserialize e true m data total dsts ptr ptr).1 = unpackSpec dsts ss ∧
      ∀ a ∈ (vssDeserialize e true m data total dsts ptr ptr).2, data ≤ a ∧ a < data + total := by
  intro dsts
  induction dsts with
  | nil => intro ss ptr _ _; simp [vssDeserialize, unpackSpec]
  | cons d ds ih =>
    intro ss ptr hh hp
    cases ss with
    | nil =>
      have : ptr ≥ total := by simp [packStrings] at hp; omega
      simp [vssDeserialize, this, unpackSpec]
    | cons s rest =>
      rw [packStrings_cons_length] at hp
      obtain ⟨hlen, h2, hh'⟩ := holds_packStrings_cons e m data ptr s rest (by omega) hh
      have hge : ¬ ptr ≥ total := by omega
      have e1 : (ptr + 2 + s.length) % 2 ^ 16 = ptr + 2 + s.length := Nat.mod_eq_of_lt (by omega)
      have hrec := ih rest (ptr + 2 + s.length) hh' (by omega)
      simp only [vssDeserialize, hge, if_false, hlen, if_true, e1]
      constructor
      · simp only [unpackSpec, List.zipWith_cons_cons]
        rw [hrec.1]
        congr 2
        cases d
        · rfl
        · simp only [if_true]; rw [read_of_holds h2]
      · intro a ha
        rcases List.mem_append.mp ha with h | h
        · rcases List.mem_append.mp h with h' | h'
          · simp at h'; omega
          · cases d
            · simp at h'
            · simp only [if_true, List.mem_map, List.mem_range] at h'
              obtain ⟨k, hk, rfl⟩ := h'; omega
        · exact hrec.2 a h

/-- **C10 (unpacking).** Unpacking a packed array into any number of requested strings —
    fewer, as many as, or more than it holds — delivers the first `min(requested, packed)`
    strings with their lengths and bytes (lengths only where no destination is supplied) and
    reads only bytes inside the array's recorded length. -/
theorem C10_deserialize (e : Endian) (m : Mem) (data : Nat) (ss : List (List Byte)) (dsts : List Bool)
    (h : (packStrings ss).length < 2 ^ 16) (hh : holds m data (packStrings ss)) :
    (vssDeserialize e true m data (packStrings ss).length dsts 0 0).1 = unpackSpec dsts ss ∧
    ∀ a ∈ (vssDeserialize e true m data (packStrings ss).length dsts 0 0).2,
      data ≤ a ∧ a < data + (packStrings ss).length :=
  deserialize_gen e m data _ h dsts ss 0 (by simpa using hh) (by simp)

/-- **C10 (round trip).** Counting / unpacking what the packer wrote. -/
theorem C10_roundtrip (e : Endian) (m : Mem) (data : Nat) (ss : List (List Byte)) (dsts : List Bool)
    (h : (packStrings ss).length < 2 ^ 16) :
    let r := vssSerialize e m data (strArgs ss) 0
    (vssCount e 16 r.1 data r.2).1 = ss.length ∧
    (vssDeserialize e true r.1 data r.2 dsts 0 0).1 = unpackSpec dsts ss := by
  intro r
  have hr : r = _ := C10_serialize e m data ss h
  rw [hr]
  exact ⟨(C10_count e _ data ss h (holds_write _ _ _)).1,
    (C10_deserialize e _ data ss dsts h (holds_write _ _ _)).1⟩

example : packStrings [[0x56, 0x53, 0x53]] = [0x00, 0x03, 0x56, 0x53, 0x53] := by decide
example : unpackSpec [true, false, true] [[1], [2, 3]] = [(1, some [1]), (2, none)] := by decide

end O1722
