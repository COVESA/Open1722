/-
  C19: the example CAN tunnel is transparent (for the Model of acf-can-talker.c / acf-can-listener.c in
  Model/Tunnel.lean, over the library Models), and the control-format header announces exactly the bytes
  of the ACF messages.
-/
import O1722.Model.Tunnel
import O1722.Props.Can

namespace O1722
open Spec

/-- A frame as the kernel hands it to the talker: a 32-bit `can_id` without the error flag,
    an 11-bit identifier unless EFF is set, a length the CAN variant allows with at least
    that many data bytes, and — on a CAN-FD socket — the FDF flag plus any of BRS/ESI
    (classic frames carry no flags). -/
def CanFrame.wf (cfg : TunnelCfg) (f : CanFrame) : Prop :=
  f.canId < 2 ^ 32 ∧ f.canId.testBit 29 = false ∧
  (f.canId.testBit 31 = false → f.canId % 2 ^ 29 ≤ 0x7FF) ∧
  f.len ≤ (if cfg.fd then 64 else 8) ∧ f.len ≤ f.data.length ∧
  (if cfg.fd then f.flags < 8 ∧ f.flags.testBit 2 = true else f.flags = 0)

/-- The frame the listener must write to the CAN socket for `f`. -/
def CanFrame.out (f : CanFrame) : CanOut := ⟨f.canId, f.len, f.flags, f.data.take f.len⟩

/-- Octets one ACF-CAN message occupies: header, payload, pad to the quadlet. -/
def msgLen (f : CanFrame) : Nat := 16 + f.len + padOf f.len

theorem CanFrame.wf.len_le {cfg : TunnelCfg} {f : CanFrame} (h : f.wf cfg) :
    f.len ≤ 64 ∧ (f.data.take f.len).length = f.len := by
  obtain ⟨_, _, _, hlen, hdata, _⟩ := h
  exact ⟨by split at hlen <;> omega, by rw [List.length_take, Nat.min_eq_left hdata]⟩

theorem bit01_eq (x i : Nat) : bit01 x (2 ^ i) = (x.testBit i).toNat := by
  unfold bit01
  rw [and_two_pow_eq]
  cases x.testBit i <;> simp

theorem bit01_lt (x mask : Nat) : bit01 x mask < 2 ^ 1 := by unfold bit01; split <;> decide

theorem canId_recompose (c : Nat) (h32 : c < 2 ^ 32) (h29 : c.testBit 29 = false) :
    (let id := c % 2 ^ 29
     let id1 := if (c.testBit 31).toNat ≠ 0 then id ||| 2 ^ 31 else id
     if (c.testBit 30).toNat ≠ 0 then id1 ||| 2 ^ 30 else id1) = c := by
  -- bit by bit: the result has the bits of `c` below 29 and at 30 and 31; `c` has no others
  have e : ∀ (i x : Nat), (if (c.testBit i).toNat ≠ 0 then x ||| 2 ^ i else x) = x ||| (c &&& 2 ^ i) := by
    intro i x; rw [and_two_pow_eq]; cases c.testBit i <;> simp
  simp only [e]
  apply Nat.eq_of_testBit_eq; intro k
  simp only [Nat.testBit_or, Nat.testBit_and, Nat.testBit_mod_two_pow, Nat.testBit_two_pow]
  cases hb : c.testBit k
  · simp
  · have : k < 29 ∨ k = 30 ∨ k = 31 := by
      have h1 : k ≠ 29 := fun h => by rw [h, h29] at hb; cases hb
      have h2 : k < 32 := Nat.lt_of_not_le fun hk => by
        rw [Nat.testBit_lt_two_pow (Nat.lt_of_lt_of_le h32 (Nat.pow_le_pow_right (by omega) hk))] at hb; cases hb
      omega
    simp only [Bool.and_true, Bool.true_and, Bool.or_eq_true, decide_eq_true_eq]
    omega

theorem fdFlags_recompose (x : Nat) (h8 : x < 8) (h2 : x.testBit 2 = true) :
    ((if (x.testBit 0).toNat ≠ 0 then 1 else 0) ||| (if (1 : Nat) ≠ 0 then 4 else 0)
      ||| (if (x.testBit 1).toNat ≠ 0 then 2 else 0)) = x := by
  have h : x / 2 ^ 2 % 2 = 1 := by
    have := Nat.toNat_testBit x 2; rw [h2] at this; simpa using this.symm
  have hx : x = 4 ∨ x = 5 ∨ x = 6 ∨ x = 7 := by omega
  rcases hx with hx | hx | hx | hx <;> subst hx <;> decide

/-! ### ACF-CAN header fields by name, position and layout -/

def canFields : List (String × Nat × FieldSpec) :=
  [("ACF_MSG_TYPE", 0, ⟨"AVTP_CAN_FIELD_ACF_MSG_TYPE", "AcfMsgType", 0, 7⟩),
   ("MTV", 3, ⟨"AVTP_CAN_FIELD_MTV", "Mtv", 18, 1⟩),
   ("RTR", 4, ⟨"AVTP_CAN_FIELD_RTR", "Rtr", 19, 1⟩),
   ("EFF", 5, ⟨"AVTP_CAN_FIELD_EFF", "Eff", 20, 1⟩),
   ("BRS", 6, ⟨"AVTP_CAN_FIELD_BRS", "Brs", 21, 1⟩),
   ("FDF", 7, ⟨"AVTP_CAN_FIELD_FDF", "Fdf", 22, 1⟩),
   ("ESI", 8, ⟨"AVTP_CAN_FIELD_ESI", "Esi", 23, 1⟩),
   ("MESSAGE_TIMESTAMP", 10, ⟨"AVTP_CAN_FIELD_MESSAGE_TIMESTAMP", "MessageTimestamp", 32, 64⟩)]

theorem canFields_ok : canFields.all (fun (n, j, fs) =>
    Spec.can.fieldNamed n == some fs && Spec.can.fields[j]? == some fs) = true := by decide +kernel

def IsMsg (cfg : TunnelCfg) (m : Mem) (pdu : Nat) (f : CanFrame) : Prop :=
  getNamed Spec.can m pdu "ACF_MSG_TYPE" = 1 ∧
  getNamed Spec.can m pdu "ACF_MSG_LENGTH" = msgLen f / 4 ∧
  getNamed Spec.can m pdu "PAD" = padOf f.len ∧
  getNamed Spec.can m pdu "CAN_IDENTIFIER" = f.canId % 2 ^ 29 ∧
  getNamed Spec.can m pdu "EFF" = (f.canId.testBit 31).toNat ∧
  getNamed Spec.can m pdu "RTR" = (f.canId.testBit 30).toNat ∧
  getNamed Spec.can m pdu "BRS" = (if cfg.fd then (f.flags.testBit 0).toNat else 0) ∧
  getNamed Spec.can m pdu "FDF" = (if cfg.fd then 1 else 0) ∧
  getNamed Spec.can m pdu "ESI" = (if cfg.fd then (f.flags.testBit 1).toNat else 0) ∧
  holds m (pdu + 16) (f.data.take f.len)

theorem can_writes : writesWithin (Spec.can.initWrites true) Spec.can.headerLen = true ∧
    writesWithin (Spec.can.initWrites false) Spec.can.headerLen = true :=
  writesWithin_of_mem (by simp [Spec.all])

theorem IsMsg.payloadLength {cfg : TunnelCfg} {m : Mem} {pdu : Nat} {f : CanFrame} (h : IsMsg cfg m pdu f)
    (hl : f.len ≤ 64) : canPayloadLength Spec.can m pdu = f.len := by
  unfold canPayloadLength
  rw [h.2.1, h.2.2.1, show Spec.can.headerLen = 16 from rfl]
  unfold msgLen padOf; dsimp only; omega

/-- **The talker's message builder writes exactly the frame** (and nothing else): the
    message at `pdu` says `f`, occupies `msgLen f` octets, and no octet outside them changes. -/
theorem talkMsg_isMsg (cfg : TunnelCfg) (ts : Nat) (m : Mem) (pdu : Nat) (f : CanFrame)
    (hwf : f.wf cfg) :
    IsMsg cfg (talkMsg cfg ts m pdu f).1 pdu f ∧ (talkMsg cfg ts m pdu f).2 = msgLen f ∧
    ∀ a, (a < pdu ∨ pdu + msgLen f ≤ a) → (talkMsg cfg ts m pdu f).1 a = m a := by
  obtain ⟨hl64, hplen⟩ := hwf.len_le
  have ne := getNamed_setNamed_ne Spec.can can_disjoint
  have so := setNamed_outside Spec.can can_disjoint
  unfold talkMsg
  simp only [Nat.mod_eq_of_lt (show f.len < 256 by omega)]
  -- the header as `Avtp_Can_Init`, timestamp and MTV leave it; then the builder
  generalize hpre : setNamed Spec.can (setNamed Spec.can (Spec.can.canonical false 0 (zeroFill m pdu 16) pdu) pdu
    "MESSAGE_TIMESTAMP" ts) pdu "MTV" 1 = pre
  have preOut : ∀ a, (a < pdu ∨ pdu + 16 ≤ a) → pre a = m a := by
    intro a ha
    rw [← hpre, so _ _ _ _ _ ha, so _ _ _ _ _ ha, canonical_frame _ _ can_writes.2 _ _ _ _ ha, zeroFill, if_neg (by omega)]
  obtain ⟨cLen, cPad, cId, cEff, cFdf, cType, cMtv, cRtr, cBrs, cEsi, _, _⟩ :=
    C06_can_fields pre pdu (f.canId &&& CAN_EFF_MASK) (f.data.take f.len) (if cfg.fd then 1 else 0) (by rw [hplen]; omega)
  obtain ⟨hpay, _, hout, _, _⟩ := C06_builder Spec.can canIdxFull can_layout_ok.1 can_writes pre pdu (f.canId &&& CAN_EFF_MASK)
    (f.data.take f.len) (if cfg.fd then 1 else 0) (by rw [hplen]; omega)
  simp only [hplen, show Spec.can.headerLen = 16 from rfl] at hpay hout cLen cPad
  generalize canCreate Spec.can pre pdu (f.canId &&& CAN_EFF_MASK) (f.data.take f.len) (if cfg.fd then 1 else 0) = r at *
  rw [show f.canId &&& CAN_EFF_MASK = f.canId % 2 ^ 29 from Nat.and_two_pow_sub_one_eq_mod f.canId 29, Nat.mod_mod] at cId
  simp only [← hpre, ne, ne_eq, String.reduceEq, not_false_eq_true, getNamed_canonical _ can_disjoint] at cType cBrs cEsi
  have hq : (16 + f.len + padOf f.len) / 4 % 2 ^ 9 = msgLen f / 4 ∧ msgLen f / 4 * 4 = msgLen f := by
    unfold msgLen padOf; omega
  have own : ∀ m a x k, (Spec.can.fieldNamed a).any (fun fs => decide (1 ≤ fs.width ∧ 1 ≤ 64)) = true →
      getNamed Spec.can (setNamed Spec.can m pdu a (bit01 x (2 ^ k))) pdu a = (x.testBit k).toNat :=
    fun m a x k hw => by rw [getNamed_setNamed_fit Spec.can m pdu a _ 1 (bit01_lt ..) hw, bit01_eq]
  have eff : ∀ m, getNamed Spec.can (setNamed Spec.can m pdu "EFF" (bit01 f.canId CAN_EFF_FLAG)) pdu "EFF" = _ :=
    fun m => own m "EFF" f.canId 31 (by decide)
  have rtr : ∀ m, getNamed Spec.can (setNamed Spec.can m pdu "RTR" (bit01 f.canId CAN_RTR_FLAG)) pdu "RTR" = _ :=
    fun m => own m "RTR" f.canId 30 (by decide)
  have brs : ∀ m, getNamed Spec.can (setNamed Spec.can m pdu "BRS" (bit01 f.flags CANFD_BRS)) pdu "BRS" = _ :=
    fun m => own m "BRS" f.flags 0 (by decide)
  have esi : ∀ m, getNamed Spec.can (setNamed Spec.can m pdu "ESI" (bit01 f.flags CANFD_ESI)) pdu "ESI" = _ :=
    fun m => own m "ESI" f.flags 1 (by decide)
  have can0 : getNamed Spec.can (Spec.can.canonical false 0 (fun _ => 0) 0) 0 "ACF_MSG_TYPE" = 1 ∧
      getNamed Spec.can (Spec.can.canonical false 0 (fun _ => 0) 0) 0 "BRS" = 0 ∧
      getNamed Spec.can (Spec.can.canonical false 0 (fun _ => 0) 0) 0 "ESI" = 0 := by decide +kernel
  generalize hm6 : (ite (cfg.fd = true) _ _ : Mem) = m6
  have out : ∀ a, (a < pdu ∨ pdu + 16 ≤ a) → m6 a = r.1 a := fun a ha => by
    rw [← hm6]; split <;> simp only [so _ _ _ _ _ ha]
  unfold msgLen at hq
  refine ⟨?_, ?_, fun a ha => by unfold msgLen at ha; rw [out a (by omega), hout a (by omega), preOut a (by omega)]⟩
  -- a field of `m6`: the read crosses the flag writes of other names (`ne`) down to the field's own
  -- write (`eff`, `rtr`, `brs`, `esi`) or to the builder's result (`cLen` … `cEsi`)
  · refine ⟨?_, ?_, ?_, ?_, ?_, ?_, ?_, ?_, ?_, fun i hi => (out _ (Or.inr (by omega))).trans (hpay i (hplen ▸ hi))⟩ <;>
    cases hfd : cfg.fd <;>
    simp only [← hm6, if_true, if_false, Bool.false_eq_true, ne, ne_eq, String.reduceEq, not_false_eq_true, eff, rtr, brs, esi,
      cLen, cPad, cId, cFdf, cType, cBrs, cEsi, can0, hq, hfd, msgLen]
  · cases hfd : cfg.fd <;>
    simp only [← hm6, if_true, if_false, Bool.false_eq_true, ne, ne_eq, String.reduceEq, not_false_eq_true, cLen, hq, hfd, msgLen]

/-- **The listener's message parser reads exactly the frame** a well-formed message says. -/
theorem listenMsg_of_isMsg (cfg : TunnelCfg) (m : Mem) (pdu rem : Nat) (f : CanFrame) (hwf : f.wf cfg)
    (hrem : msgLen f ≤ rem) (h : IsMsg cfg m pdu f) : listenMsg cfg m pdu rem = some (f.out, msgLen f) := by
  obtain ⟨hl64, htake⟩ := hwf.len_le
  obtain ⟨h32, h29, hstd, hlen, _, hflags⟩ := hwf
  have hplen := h.payloadLength hl64
  obtain ⟨hType, hLen, hPad, hId, hEff, hRtr, hBrs, hFdf, hEsi, hData⟩ := h
  have hty : getNamed Spec.acfCommon m pdu "ACF_MSG_TYPE" = 1 :=
    (getNamed_view Spec.acfCommon Spec.can _ _ (by decide +kernel) m pdu).trans hType
  have hml : (getNamed Spec.can m pdu "ACF_MSG_LENGTH" * 4) % 2 ^ 16 = msgLen f := by
    rw [hLen]; unfold msgLen padOf; omega
  have hread : Mem.read m (pdu + 16) f.len = f.data.take f.len := by
    have := read_of_holds hData
    rwa [htake] at this
  have hnostd : ¬ ((f.canId.testBit 31).toNat = 0 ∧ f.canId % 2 ^ 29 > 2047) := by
    intro ⟨h1, h2⟩
    have : f.canId.testBit 31 = false := by cases hb : f.canId.testBit 31 <;> simp [hb] at h1 ⊢
    have := hstd this; omega
  have hchk : ¬ (msgLen f < 16 ∨ msgLen f > rem ∨ 16 + f.len > msgLen f ∨ f.len > maxData cfg) := by
    unfold maxData msgLen at *
    omega
  unfold listenMsg
  simp only [hty, hplen, hml, hId, hEff, hRtr, hBrs, hFdf, hEsi, hread]
  rw [if_neg (by simp), if_neg hchk, if_neg hnostd]
  simp only [CanFrame.out, Option.some.injEq, Prod.mk.injEq, CanOut.mk.injEq, and_true, true_and]
  refine ⟨canId_recompose f.canId h32 h29, ?_⟩
  split
  · rename_i hfd
    rw [if_pos hfd] at hflags
    exact fdFlags_recompose f.flags hflags.1 hflags.2
  · rename_i hfd
    rw [if_neg hfd] at hflags
    exact hflags.symm

/-- The message parser reads the 16 header octets and, of a message it accepts, the payload
    octets: nothing else. -/
theorem listenMsg_congr (cfg : TunnelCfg) (m₁ m₂ : Mem) (at_ rem : Nat) (hrem : 16 ≤ rem)
    (h : ∀ x, at_ ≤ x → x < at_ + min rem (16 + canPayloadLength Spec.can m₁ at_) → m₁ x = m₂ x) :
    listenMsg cfg m₁ at_ rem = listenMsg cfg m₂ at_ rem := by
  have e : ∀ name, getNamed Spec.can m₁ at_ name = getNamed Spec.can m₂ at_ name := fun name =>
    getNamed_congr Spec.can can_disjoint m₁ m₂ at_ name fun a h1 h2 => h a h1 (by
      have : Spec.can.headerLen = 16 := rfl
      omega)
  have e' : getNamed Spec.acfCommon m₁ at_ "ACF_MSG_TYPE" = getNamed Spec.acfCommon m₂ at_ "ACF_MSG_TYPE" :=
    getNamed_congr Spec.acfCommon acfCommon_disjoint m₁ m₂ at_ _ fun a h1 h2 => h a h1 (by
      have : Spec.acfCommon.headerLen = 4 := rfl
      omega)
  have ep : canPayloadLength Spec.can m₁ at_ = canPayloadLength Spec.can m₂ at_ := by
    simp only [canPayloadLength, e]
  simp only [listenMsg, e']
  rw [← ep]
  simp only [← e]
  refine ite_congr rfl (fun _ => rfl) fun _ => ite_congr rfl (fun _ => rfl) fun hc => ?_
  rw [read_congr m₁ m₂ (at_ + 16) _ fun x h1 h2 => h x (by omega) (by omega)]

/-- **C19 (one frame).** For every well-formed classic or FD frame, every timestamp, every
    prior content of the talker's buffer and every address in it: the message the talker
    builds parses, in the listener, to the same `can_id` (identifier, EFF and RTR bits), the
    same length, the same FD flags and the same data; the talker reports exactly the octets
    the message occupies and touches no other octet; and the listener reads the message the
    same from any memory that holds those octets. -/
theorem C19_message (cfg : TunnelCfg) (ts : Nat) (m : Mem) (pdu : Nat) (f : CanFrame) (hwf : f.wf cfg) :
    let r := talkMsg cfg ts m pdu f
    r.2 = msgLen f ∧
    (∀ a, (a < pdu ∨ pdu + msgLen f ≤ a) → r.1 a = m a) ∧
    (∀ M' rem, msgLen f ≤ rem → (∀ a, pdu ≤ a → a < pdu + 16 + f.len → M' a = r.1 a) →
      listenMsg cfg M' pdu rem = some (f.out, msgLen f)) := by
  intro r
  obtain ⟨h1, h2, h3⟩ := talkMsg_isMsg cfg ts m pdu f hwf
  refine ⟨h2, h3, fun M' rem hrem hM => ?_⟩
  have hl := hwf.len_le.1
  have h16 : 16 ≤ msgLen f := by unfold msgLen; omega
  rw [← listenMsg_congr cfg r.1 M' pdu rem (by omega) fun x hx1 hx2 =>
    (hM x hx1 (by rw [h1.payloadLength hl] at hx2; omega)).symm]
  exact listenMsg_of_isMsg cfg _ pdu rem f hwf hrem h1

/-- Every octet of the message the talker builds is determined by the frame and the timestamp. -/
theorem talkMsg_determined (cfg : TunnelCfg) (ts : Nat) (m₁ m₂ : Mem) (pdu : Nat) (f : CanFrame)
    (hwf : f.wf cfg) (a : Nat) (ha : pdu ≤ a ∧ a < pdu + msgLen f) :
    (talkMsg cfg ts m₁ pdu f).1 a = (talkMsg cfg ts m₂ pdu f).1 a := by
  obtain ⟨hl64, hplen⟩ := hwf.len_le
  have sp := fun m₁ m₂ n v h => setNamed_pointwise Spec.can m₁ m₂ pdu n v a h
  -- the flag writes act on each octet separately; the builder's result depends on the header it
  -- is given, and that header is initialised afresh
  have core := fun p₁ p₂ v => canCreate_determined Spec.can canIdxFull can_layout_ok.1 p₁ p₂ pdu
    (f.canId &&& CAN_EFF_MASK) (f.data.take f.len) v (by rw [hplen]; omega) a
    (by rw [hplen, show Spec.can.headerLen = 16 from rfl]; unfold msgLen at ha; omega)
  have pre := fun hh : a < pdu + 16 =>
    canonical_pointwise Spec.can false 0 (zeroFill m₁ pdu 16) (zeroFill m₂ pdu 16) pdu a (Or.inl ⟨ha.1, hh⟩)
  unfold talkMsg
  simp only [Nat.mod_eq_of_lt (show f.len < 256 by omega)]
  split
  · exact sp _ _ _ _ (sp _ _ _ _ (sp _ _ _ _ (sp _ _ _ _ (core _ _ _ fun hh => sp _ _ _ _ (sp _ _ _ _ (pre hh))))))
  · exact sp _ _ _ _ (sp _ _ _ _ (core _ _ _ fun hh => sp _ _ _ _ (sp _ _ _ _ (pre hh))))

/-- One message as octets: the talker writes them whatever the buffer held, and the listener
    reads the frame back from any memory that holds them. -/
theorem talkMsg_writes (cfg : TunnelCfg) (ts pdu : Nat) (f : CanFrame) (hwf : f.wf cfg) :
    ∃ bs : List Byte, bs.length = msgLen f ∧ (∀ m, talkMsg cfg ts m pdu f = (m.write pdu bs, msgLen f)) ∧
      ∀ M' rem, msgLen f ≤ rem → holds M' pdu bs → listenMsg cfg M' pdu rem = some (f.out, msgLen f) := by
  obtain ⟨bs, hl, hbs⟩ := eq_write_of_frame_det (fun m => (talkMsg cfg ts m pdu f).1) pdu (msgLen f)
    (fun m => (C19_message cfg ts m pdu f hwf).2.1)
    (fun m₁ m₂ x h1 h2 => talkMsg_determined cfg ts m₁ m₂ pdu f hwf x ⟨h1, h2⟩)
  refine ⟨bs, hl, fun m => Prod.ext (hbs m) (C19_message cfg ts m pdu f hwf).1, fun M' rem hrem hM => ?_⟩
  refine (C19_message cfg ts M' pdu f hwf).2.2 M' rem hrem fun a h1 h2 => ?_
  obtain ⟨k, rfl⟩ : ∃ k, a = pdu + k := ⟨a - pdu, by omega⟩
  have hk : k < bs.length := by unfold msgLen at hl; omega
  rw [hbs M', hM k hk, holds_write M' pdu bs k hk]

theorem msgLen_bounds (cfg : TunnelCfg) (f : CanFrame) (hwf : f.wf cfg) :
    16 ≤ msgLen f ∧ msgLen f ≤ maxMsgSize cfg := by
  obtain ⟨_, _, _, hlen, _, _⟩ := hwf
  unfold msgLen padOf maxMsgSize
  split at hlen <;> simp only [*, if_true, if_false, Bool.false_eq_true] <;> omega

theorem listenLoop_done (cfg : TunnelCfg) (M : Mem) (base len fuel done : Nat) (h : len ≤ done) :
    listenLoop cfg M base len fuel done = [] := by
  cases fuel with
  | zero => rfl
  | succ n => rw [listenLoop, if_neg (by omega)]

/-- The packing loop as a write of octets that the frames alone determine, together with what the
    listener's walk reads from any memory holding them: one induction over the frame list, from which
    `talkLoop_spec`, `C19_packet` and `C19_packet_no_stale` follow. -/
theorem talkLoop_writes (cfg : TunnelCfg) (count : Nat) :
    ∀ (frames : List (Nat × CanFrame)) (at_ i : Nat), (∀ p ∈ frames, p.2.wf cfg) → at_ ≤ MAX_PDU_SIZE →
      ∃ (taken : List (Nat × CanFrame)) (bs : List Byte) (rest : List (Nat × CanFrame)) (fin : Bool),
        frames = taken ++ rest ∧ bs.length = (taken.map (fun p => msgLen p.2)).sum ∧
        16 * taken.length ≤ bs.length ∧ at_ + bs.length ≤ MAX_PDU_SIZE ∧ taken.length + i ≤ max count i ∧
        (∀ m, talkLoop cfg count m at_ i frames = (m.write at_ bs, at_ + bs.length, rest, fin)) ∧
        ∀ M' base, base ≤ at_ → holds M' at_ bs → ∀ fuel, taken.length ≤ fuel →
          (listenLoop cfg M' base (at_ + bs.length - base) fuel (at_ - base)).filterMap (·.2)
            = taken.map (fun p => p.2.out) := by
  intro frames
  induction frames with
  | nil =>
    intro at_ i _ hat
    refine ⟨[], [], [], !decide (i < count ∧ at_ + maxMsgSize cfg ≤ MAX_PDU_SIZE), rfl, rfl, Nat.le_refl _, hat,
      by simp only [List.length_nil]; omega, fun m => ?_, fun M' base _ _ fuel _ => by rw [listenLoop_done (h := by rw [List.length_nil]; omega)]; rfl⟩
    rw [talkLoop]; split <;> simp [*, Mem.write]
  | cons p rest ih =>
    obtain ⟨ts, f⟩ := p
    intro at_ i hwf hat
    by_cases hg : i < count ∧ at_ + maxMsgSize cfg ≤ MAX_PDU_SIZE
    · have hf : f.wf cfg := hwf (ts, f) List.mem_cons_self
      obtain ⟨b16, bmax⟩ := msgLen_bounds cfg f hf
      obtain ⟨b1, hl1, hw1, hr1⟩ := talkMsg_writes cfg ts at_ f hf
      obtain ⟨taken, b2, rest', fin, e1, e2, e3, e4, e5, hw2, hl2⟩ := ih (at_ + msgLen f) (i + 1)
        (fun p hp => hwf p (List.mem_cons_of_mem _ hp)) (by omega)
      have hlen : (b1 ++ b2).length = msgLen f + b2.length := by rw [List.length_append, hl1]
      refine ⟨(ts, f) :: taken, b1 ++ b2, rest', fin, by rw [e1]; rfl, ?_, ?_, ?_, ?_, fun m => ?_, ?_⟩
      · rw [hlen, e2]; rfl
      · rw [hlen, List.length_cons]; omega
      · rw [hlen]; omega
      · rw [List.length_cons]; omega
      · rw [talkLoop, if_pos hg, hw1, hw2, Mem.write_append, hl1, hlen, Nat.add_assoc]
      · intro M' base hb hM fuel hfuel
        obtain ⟨h1, h2⟩ := (holds_append M' at_ b1 b2).mp hM
        rw [hl1] at h2
        rw [List.length_cons] at hfuel
        obtain ⟨fuel', rfl⟩ : ∃ k, fuel = k + 1 := ⟨fuel - 1, by omega⟩
        rw [listenLoop, if_pos (by omega), if_neg (by omega), show base + (at_ - base) = at_ by omega,
          hr1 M' _ (by omega) h1]
        simp only [List.map_cons, List.filterMap_cons]
        rw [hlen, ← Nat.add_assoc, show at_ - base + msgLen f = at_ + msgLen f - base by omega,
          hl2 M' base (by omega) h2 fuel' (by omega)]
    · refine ⟨[], [], (ts, f) :: rest, true, rfl, rfl, Nat.le_refl _, hat, by simp only [List.length_nil]; omega,
        fun m => by rw [talkLoop, if_neg hg]; rfl, fun M' base _ _ fuel _ => by rw [listenLoop_done (h := by rw [List.length_nil]; omega)]; rfl⟩

/-- `talkLoop_writes` in terms of the memory `talkLoop` returns. -/
theorem talkLoop_spec (cfg : TunnelCfg) (count : Nat) :
    ∀ (frames : List (Nat × CanFrame)) (m : Mem) (at_ i : Nat),
      (∀ p ∈ frames, p.2.wf cfg) → at_ ≤ MAX_PDU_SIZE →
      ∃ taken, frames = taken ++ (talkLoop cfg count m at_ i frames).2.2.1 ∧
        (talkLoop cfg count m at_ i frames).2.1 = at_ + (taken.map (fun p => msgLen p.2)).sum ∧
        at_ + 16 * taken.length ≤ (talkLoop cfg count m at_ i frames).2.1 ∧
        (talkLoop cfg count m at_ i frames).2.1 ≤ MAX_PDU_SIZE ∧
        taken.length + i ≤ max count i ∧
        (∀ a, (a < at_ ∨ (talkLoop cfg count m at_ i frames).2.1 ≤ a) →
            (talkLoop cfg count m at_ i frames).1 a = m a) ∧
        (∀ M' base, base ≤ at_ →
          (∀ a, at_ ≤ a → a < (talkLoop cfg count m at_ i frames).2.1 →
              M' a = (talkLoop cfg count m at_ i frames).1 a) →
          ∀ fuel, taken.length ≤ fuel →
            (listenLoop cfg M' base ((talkLoop cfg count m at_ i frames).2.1 - base) fuel (at_ - base)).filterMap (·.2)
              = taken.map (fun p => p.2.out)) := by
  intro frames m at_ i hwf hat
  obtain ⟨taken, bs, rest, fin, e1, e2, e3, e4, e5, hw, hl⟩ := talkLoop_writes cfg count frames at_ i hwf hat
  rw [hw m]
  refine ⟨taken, e1, by rw [e2], by dsimp only; omega, e4, e5, fun a ha => Mem.write_outside _ _ _ _ ha,
    fun M' base hb hM => hl M' base hb fun k hk => ?_⟩
  rw [hM _ (by omega) (by dsimp only; omega)]
  exact holds_write m at_ bs k hk

theorem cf_disjoint (cfg : TunnelCfg) : fieldsDisjoint (cfSpec cfg) = true :=
  fieldsDisjoint_of_mem (by unfold cfSpec; split <;> simp [Spec.all])

theorem cf_writes (cfg : TunnelCfg) :
    writesWithin ((cfSpec cfg).initWrites true) (cfSpec cfg).headerLen = true ∧
    writesWithin ((cfSpec cfg).initWrites false) (cfSpec cfg).headerLen = true :=
  writesWithin_of_mem (by unfold cfSpec; split <;> simp [Spec.all])

theorem talkCfHeader_outside (cfg : TunnelCfg) (seq : Nat) (m : Mem) (pdu a : Nat)
    (ha : a < pdu ∨ pdu + (cfSpec cfg).headerLen ≤ a) : talkCfHeader cfg seq m pdu a = m a := by
  have so := fun m n v => setNamed_outside (cfSpec cfg) (cf_disjoint cfg) m pdu n v a ha
  unfold talkCfHeader
  split <;> simp only [so, canonical_frame _ _ (cf_writes cfg).2 _ _ _ _ ha, zeroFill, if_neg (show ¬(pdu ≤ a ∧ a < pdu + (cfSpec cfg).headerLen) by omega)]

/-- The subtype the listener dispatches on, as left by `init_cf_pdu`. -/
theorem talkCfHeader_subtype (cfg : TunnelCfg) (seq : Nat) (m : Mem) (pdu : Nat) :
    getNamed (cfSpec cfg) (talkCfHeader cfg seq m pdu) pdu "SUBTYPE" = (if cfg.tscf then 0x05 else 0x82) := by
  unfold talkCfHeader
  simp only [apply_ite (getNamed (cfSpec cfg) · pdu "SUBTYPE"), getNamed_setNamed_ne _ (cf_disjoint cfg), ne_eq,
    String.reduceEq, not_false_eq_true, ite_self, getNamed_canonical _ (cf_disjoint cfg)]
  unfold cfSpec; split <;> decide +kernel

/-- `update_cf_length`. -/
theorem cfLength_written (cfg : TunnelCfg) (m : Mem) (pdu v : Nat) (hv : v < 2 ^ 11) :
    getNamed (cfSpec cfg) (setNamed (cfSpec cfg) m pdu (cfLenField cfg) v) pdu (cfLenField cfg) = v ∧
    getNamed (cfSpec cfg) (setNamed (cfSpec cfg) m pdu (cfLenField cfg) v) pdu "SUBTYPE"
      = getNamed (cfSpec cfg) m pdu "SUBTYPE" :=
  ⟨getNamed_setNamed_fit _ _ _ _ _ 11 hv (by unfold cfSpec cfLenField; split <;> decide),
   getNamed_setNamed_ne _ (cf_disjoint cfg) _ _ _ _ _ (by unfold cfLenField; split <;> decide)⟩

theorem cf_headerLen (cfg : TunnelCfg) : (cfSpec cfg).headerLen = if cfg.tscf then 24 else 12 := by
  unfold cfSpec; split <;> rfl

/-- The listener dispatches on the common header's subtype: the same bits. -/
theorem subtype_view (cfg : TunnelCfg) (m : Mem) (pdu : Nat) :
    getNamed Spec.commonHeader m pdu "SUBTYPE" = getNamed (cfSpec cfg) m pdu "SUBTYPE" := by
  unfold cfSpec; split <;> exact getNamed_view _ _ _ _ (by decide) m pdu

theorem listenWalk_cf (cfg : TunnelCfg) (M : Mem) (n cfAt : Nat) (hcf : (if cfg.udp then 4 else 0) = cfAt)
    (hsub : getNamed (cfSpec cfg) M cfAt "SUBTYPE" = if cfg.tscf then 0x05 else 0x82)
    (hn : cfAt + (cfSpec cfg).headerLen + getNamed (cfSpec cfg) M cfAt (cfLenField cfg) ≤ n) :
    listenWalk cfg M n = listenLoop cfg M (cfAt + (cfSpec cfg).headerLen)
      (getNamed (cfSpec cfg) M cfAt (cfLenField cfg)) 400 0 := by
  rw [← subtype_view cfg] at hsub
  unfold listenWalk
  simp only [hcf, hsub]
  obtain ⟨t, u, fd⟩ := cfg
  cases t <;> simp only [cfSpec, cfLenField, if_true, if_false, Bool.false_eq_true] at hn ⊢
  · rw [show Spec.ntscf.headerLen = 12 from rfl] at hn ⊢
    rw [if_neg (by omega), if_neg (by omega), if_neg (by omega), if_neg (by omega)]
  · rw [show Spec.tscf.headerLen = 24 from rfl] at hn ⊢
    rw [if_neg (by omega), if_neg (by omega), if_neg (by omega), if_neg (by omega)]

/-- **C19 (packet).** For every mode (TSCF/NTSCF, UDP/raw, classic/FD), every frames-per-packet
    setting, all sequence numbers, every prior content of the talker's buffer and every list
    of well-formed frames waiting on the CAN socket — of any length: one iteration of the
    talker's sending loop packs a prefix `taken` of the frames (never more than `count`, never
    past the 1500-octet buffer); the datagram is the encapsulation and control-format headers
    followed by exactly the messages of `taken`; and whatever else the listener's receive
    buffer holds around the received octets, (1) the control-format length field reads exactly
    the number of octets occupied by the ACF messages and (2) the listener writes exactly the
    frames `taken`, each with its identifier, EFF/RTR bits, FD flags, length and data, in
    order. -/
theorem C19_packet (cfg : TunnelCfg) (count udpSeq seq : Nat) (m : Mem) (frames : List (Nat × CanFrame))
    (hwf : ∀ p ∈ frames, p.2.wf cfg) :
    let r := talkPacket cfg count udpSeq seq m frames
    let hdr := (if cfg.udp then 4 else 0) + (cfSpec cfg).headerLen
    ∃ taken, frames = taken ++ r.2.1 ∧ taken.length ≤ count ∧
      r.1.length = hdr + (taken.map (fun p => msgLen p.2)).sum ∧ r.1.length ≤ MAX_PDU_SIZE ∧
      ∀ M', holds M' 0 r.1 →
        getNamed (cfSpec cfg) M' (if cfg.udp then 4 else 0) (cfLenField cfg)
          = (taken.map (fun p => msgLen p.2)).sum ∧
        listenPacket cfg M' r.1.length = taken.map (fun p => p.2.out) := by
  intro r hdr
  generalize hcf : (if cfg.udp then 4 else 0) = cfAt at *
  have hcf4 : cfAt ≤ 4 := by rw [← hcf]; split <;> omega
  have hhl : 12 ≤ (cfSpec cfg).headerLen ∧ (cfSpec cfg).headerLen ≤ 24 := by rw [cf_headerLen]; split <;> omega
  generalize hm0 : (if cfg.udp then setNamed Spec.udp m 0 "ENCAPSULATION_SEQ_NO" (udpSeq % 2 ^ 32) else m) = m0
  obtain ⟨taken, bs, rest, fin, e1, e2, _, e4, e5, hw, hl⟩ := talkLoop_writes cfg count frames
    (cfAt + (cfSpec cfg).headerLen) 0 hwf (by unfold MAX_PDU_SIZE; omega)
  unfold MAX_PDU_SIZE at e4
  -- the datagram: the buffer after the headers, the messages and the length field
  generalize hm1 : (talkCfHeader cfg seq m0 cfAt).write (cfAt + (cfSpec cfg).headerLen) bs = m1
  have hr : r = (Mem.read (setNamed (cfSpec cfg) m1 cfAt (cfLenField cfg) bs.length) 0
      (cfAt + (cfSpec cfg).headerLen + bs.length), rest, fin) := by
    show talkPacket cfg count udpSeq seq m frames = _
    unfold talkPacket
    simp only [hcf, hm0, hw, hm1]
    rw [Nat.mod_eq_of_lt (by omega), Nat.mod_eq_of_lt (by omega),
      show cfAt + (cfSpec cfg).headerLen + bs.length - cfAt - (cfSpec cfg).headerLen = bs.length by omega]
  rw [hr]
  simp only [read_length]
  refine ⟨taken, e1, by simpa using e5, by rw [e2, ← hcf], e4, fun M' hM => ?_⟩
  rw [holds_read] at hM
  simp only [Nat.zero_add] at hM
  -- the listener sees the talker's control-format header …
  have hhead := fun name => getNamed_congr (cfSpec cfg) (cf_disjoint cfg) M' _ cfAt name fun a _ h2 => hM a (by omega)
  obtain ⟨hw1, hw2⟩ := cfLength_written cfg m1 cfAt bs.length (by omega)
  have hlen : getNamed (cfSpec cfg) M' cfAt (cfLenField cfg) = bs.length := by rw [hhead, hw1]
  have hsub : getNamed (cfSpec cfg) M' cfAt "SUBTYPE" = (if cfg.tscf then 0x05 else 0x82) := by
    rw [hhead, hw2, ← hm1, getNamed_write_behind _ (cf_disjoint cfg) _ _ _ _ _ (Nat.le_refl _), talkCfHeader_subtype]
  -- … and behind it the messages
  have hwalk := hl M' (cfAt + (cfSpec cfg).headerLen) (Nat.le_refl _) (fun k hk => by
    rw [hM _ (by omega), setNamed_outside (cfSpec cfg) (cf_disjoint cfg) _ cfAt _ _ _ (Or.inr (by omega)), ← hm1]
    exact holds_write _ _ bs k hk) 400 (by omega)
  rw [Nat.sub_self, Nat.add_sub_cancel_left] at hwalk
  unfold listenPacket
  rw [listenWalk_cf cfg M' _ cfAt hcf hsub (by omega), hlen, hwalk]
  exact ⟨e2, rfl⟩

theorem holds_recvBuf (stale : Byte) (pkt : List Byte) : holds (recvBuf stale pkt) 0 pkt := by
  intro i hi
  unfold recvBuf
  rw [Nat.zero_add, List.getD_eq_getElem?_getD, List.getElem?_eq_getElem hi]; rfl

/-- **C19 (any history).** Whatever sequence of well-formed frames arrives on the talker's CAN
    socket, for every mode and frames-per-packet setting: the frames written by the listener
    over all datagrams sent, followed by the frames still waiting in the talker when it
    blocks, are exactly the frames that arrived — same identifiers, flags, lengths and data,
    same order, none lost, duplicated or invented. -/
theorem C19_stream (cfg : TunnelCfg) (count : Nat) (bufs : Nat → Mem) (stale : Byte) :
    ∀ (fuel udpSeq seq : Nat) (frames : List (Nat × CanFrame)), (∀ p ∈ frames, p.2.wf cfg) →
      let r := talkStream cfg count bufs fuel udpSeq seq frames
      (r.1.flatMap (fun pkt => listenPacket cfg (recvBuf stale pkt) pkt.length)) ++ r.2.map (fun p => p.2.out)
        = frames.map (fun p => p.2.out) ∧
      ∀ pkt ∈ r.1, pkt.length ≤ MAX_PDU_SIZE := by
  intro fuel
  induction fuel with
  | zero => intro _ _ frames _; exact ⟨rfl, fun _ h => by cases h⟩
  | succ fuel ih =>
    intro udpSeq seq frames hwf
    unfold talkStream
    simp only
    split
    · obtain ⟨taken, e1, _, _, e4, e5⟩ := C19_packet cfg count udpSeq seq (bufs fuel) frames hwf
      generalize talkPacket cfg count udpSeq seq (bufs fuel) frames = r at *
      have hrest : ∀ p ∈ r.2.1, p.2.wf cfg := fun p hp => hwf p (by rw [e1]; exact List.mem_append_right _ hp)
      obtain ⟨ih1, ih2⟩ := ih (udpSeq + 1) (seq + 1) r.2.1 hrest
      refine ⟨?_, ?_⟩
      · simp only [List.flatMap_cons, List.append_assoc]
        rw [ih1, (e5 _ (holds_recvBuf stale r.1)).2]
        conv => rhs; rw [e1]
        rw [List.map_append]
      · intro pkt hp
        rcases List.mem_cons.mp hp with h | h
        · rw [h]; exact e4
        · exact ih2 pkt h
    · exact ⟨rfl, fun _ h => by cases h⟩

/-- With at least one frame per packet requested and room for a message, the packing loop takes
    the first waiting frame (one step of `talkLoop`). -/
theorem talkLoop_progress (cfg : TunnelCfg) (count : Nat) (m : Mem) (at_ : Nat) (p : Nat × CanFrame)
    (rest : List (Nat × CanFrame)) (hc : 0 < count) (hat : at_ + maxMsgSize cfg ≤ MAX_PDU_SIZE) :
    ∃ m' at', talkLoop cfg count m at_ 0 (p :: rest) = talkLoop cfg count m' at' 1 rest := by
  refine ⟨(talkMsg cfg p.1 m at_ p.2).1, at_ + (talkMsg cfg p.1 m at_ p.2).2, ?_⟩
  rw [talkLoop, if_pos ⟨hc, hat⟩]

def exFrameFd : CanFrame := ⟨0x80000123 ||| 0x40000000, 12, 7, List.replicate 64 0x5A⟩
def exFrameStd : CanFrame := ⟨0x7FF, 8, 0, List.replicate 8 0xA5⟩

example : exFrameFd.wf ⟨true, true, true⟩ := by
  unfold CanFrame.wf exFrameFd; decide
example : exFrameStd.wf ⟨false, false, false⟩ := by
  unfold CanFrame.wf exFrameStd; decide

/-- the whole tunnel on concrete frames, three per packet, evaluated -/
example :
    let frames := [(1, exFrameFd), (2, { exFrameFd with canId := 0x80000005, len := 64, flags := 4 }),
      (3, { exFrameFd with canId := 0x400, len := 0, flags := 6 }), (4, exFrameFd)]
    let r := talkStream ⟨true, true, true⟩ 3 (fun _ _ => 0) 5 0 0 frames
    r.1.length = 1 ∧ r.2.length = 1 ∧
    r.1.flatMap (fun pkt => listenPacket ⟨true, true, true⟩ (recvBuf 0 pkt) pkt.length) = (frames.take 3).map (fun p => p.2.out) := by
  decide +kernel

end O1722
