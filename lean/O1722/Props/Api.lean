/-
  C11 (invalid arguments are rejected without side effects), C12 (legacy and current APIs are
  interchangeable) and C17 (overlapping header views agree).
-/
import O1722.Props.Header

namespace O1722
open Spec

/-- The argument checks a deprecated by-identifier wrapper makes itself. -/
def LegacyAcc.rejects (l : LegacyAcc) (pdu val : Option Nat) (field : Nat) : Bool :=
  (l.guardPdu && pdu.isNone) || (l.isGet && l.guardVal && val.isNone)
    || (match l.bound with | some b => decide (b ≤ field) | none => false)

/-- `legacy_get(pdu, field, val)`: memory after the call (the result location is part of
    memory) and return value. `none`: the wrapper would dereference an unchecked pointer. -/
def LegacyAcc.runGet (l : LegacyAcc) (g : GenFormat) (e : Endian) (m : Mem) (pdu val : Option Nat)
    (field : Nat) : Option (Mem × Int) :=
  if l.rejects pdu val field then some (m, l.err) else
    match g.findGetter l.fwd, val with
    | some x, some v =>
      some (store e (l.valBits / 8) m v (x.run g.table e m pdu field % 2 ^ l.valBits), l.ok)
    | _, _ => none

/-- `legacy_set(pdu, field, value)`. -/
def LegacyAcc.runSet (l : LegacyAcc) (g : GenFormat) (e : Endian) (m : Mem) (pdu : Option Nat)
    (field value : Nat) : Option (Mem × Int) :=
  if l.rejects pdu (some 0) field then some (m, l.err) else
    match g.findSetter l.fwd with
    | some x => some (x.run g.table e m pdu field (value % 2 ^ l.valBits), l.ok)
    | none => none

/-- No identifier the caller can pass is folded onto a valid one on its way to Utils.c. -/
def noAliasing (paramBits castBits : Nat) : Bool := decide (paramBits ≤ castBits)

def checkC11 (s : FormatSpec) (g : GenFormat) : Bool :=
  g.genericGetters.all (fun x => noAliasing x.fieldParamBits x.fieldCastBits
      && tableArgsOK g x.table x.numFields)
    && g.genericSetters.all (fun x => noAliasing x.fieldParamBits x.fieldCastBits
      && tableArgsOK g x.table x.numFields)
    && g.getters.all (fun x => tableArgsOK g x.table x.numFields)
    && g.setters.all (fun x => tableArgsOK g x.table x.numFields)
    && g.legacy.all (fun l => l.guardPdu && (!l.isGet || l.guardVal) && l.bound == some g.table.length
        && l.err == -22 && l.ok == 0
        && (if l.isGet then (g.findGetter l.fwd).isSome else (g.findSetter l.fwd).isSome))
    && g.inits.all (fun i => !i.legacy || (i.err == -22 && i.ok == 0))
    && factIs g.facts ("unsigned:" ++ g.enumType) 1
    && g.opaqueFns.isEmpty

theorem checkC11_legacy {s : FormatSpec} {g : GenFormat} (h : checkC11 s g = true) {l : LegacyAcc}
    (hl : l ∈ g.legacy) :
    l.guardPdu = true ∧ (l.isGet = true → l.guardVal = true) ∧ l.bound = some g.table.length ∧
      l.err = -22 ∧ l.ok = 0 ∧
      (if l.isGet then (g.findGetter l.fwd).isSome else (g.findSetter l.fwd).isSome) = true := by
  simp only [checkC11, Bool.and_eq_true, List.all_eq_true] at h
  have hc := h.1.1.1.2 l hl
  simp only [beq_iff_eq, Bool.or_eq_true] at hc
  obtain ⟨⟨⟨⟨⟨hgp, hgv⟩, hb⟩, herr⟩, hok⟩, hfw⟩ := hc
  exact ⟨hgp, fun hg => hgv.resolve_left (by simp [hg]), hb, herr, hok, hfw⟩

theorem LegacyAcc.rejects_eq {l : LegacyAcc} {b : Nat} (hgp : l.guardPdu = true)
    (hgv : l.isGet = true → l.guardVal = true) (hb : l.bound = some b) (pdu val : Option Nat) (field : Nat) :
    l.rejects pdu val field = (pdu.isNone || (l.isGet && val.isNone) || decide (b ≤ field)) := by
  unfold LegacyAcc.rejects
  rw [hgp, hb]
  cases hg : l.isGet
  · simp
  · simp [hgv hg]

theorem getter_null (x : Getter) (tbl : List Desc) (e : Endian) (m : Mem) (arg : Nat) :
    x.run tbl e m none arg = 0 ∧ x.log tbl e m none arg = [] :=
  ⟨Nat.zero_mod _, rfl⟩

theorem setter_null (x : Setter) (tbl : List Desc) (e : Endian) (m : Mem) (arg v : Nat) :
    x.run tbl e m none arg v = m ∧ x.log tbl e m none arg v = [] :=
  ⟨rfl, rfl⟩

/-- **C11, generic reader**: an identifier outside the enumeration (any value the parameter
    type can carry) reads 0 and touches nothing. -/
theorem getter_out_of_range (g : GenFormat) (x : Getter) (hgen : x.field = none)
    (hna : noAliasing x.fieldParamBits x.fieldCastBits = true)
    (e : Endian) (m : Mem) (pdu : Option Nat) (arg : Nat) (harg : arg < 2 ^ x.fieldParamBits)
    (hout : x.numFields ≤ arg) :
    x.run g.table e m pdu arg = 0 ∧ x.log g.table e m pdu arg = [] := by
  have hle : x.fieldParamBits ≤ x.fieldCastBits := by simpa [noAliasing] using hna
  have hmod : arg % 2 ^ x.fieldCastBits = arg :=
    Nat.mod_eq_of_lt (Nat.lt_of_lt_of_le harg (Nat.pow_le_pow_right (by decide) hle))
  unfold Getter.run Getter.log getField fieldArg
  rw [hgen]
  simp only [hmod]
  rw [getFieldLog_rejected _ _ _ _ _ _ (Or.inr hout)]
  exact ⟨Nat.zero_mod _, rfl⟩

/-- **C11, generic writer.** -/
theorem setter_out_of_range (g : GenFormat) (x : Setter) (hgen : x.field = none)
    (hna : noAliasing x.fieldParamBits x.fieldCastBits = true)
    (e : Endian) (m : Mem) (pdu : Option Nat) (arg v : Nat) (harg : arg < 2 ^ x.fieldParamBits)
    (hout : x.numFields ≤ arg) :
    x.run g.table e m pdu arg v = m ∧ x.log g.table e m pdu arg v = [] := by
  have hle : x.fieldParamBits ≤ x.fieldCastBits := by simpa [noAliasing] using hna
  have hmod : arg % 2 ^ x.fieldCastBits = arg :=
    Nat.mod_eq_of_lt (Nat.lt_of_lt_of_le harg (Nat.pow_le_pow_right (by decide) hle))
  unfold Setter.run Setter.log setField fieldArg
  rw [hgen]
  simp only [hmod]
  rw [setFieldLog_rejected _ _ _ _ _ _ _ (Or.inr hout)]
  exact ⟨rfl, rfl⟩

/-- **C11 for a whole format.** NULL PDU: every reader returns 0, every writer and
    initialiser leaves memory as it was, nothing is accessed. Identifier outside the
    enumeration: the same for the by-identifier reader and writer. Deprecated entry points:
    the invalid-argument error and untouched memory (incl. the result location) for a NULL
    PDU, a NULL result pointer or an out-of-range identifier. -/
theorem C11_format (s : FormatSpec) (g : GenFormat) (h : checkC11 s g = true) :
    (∀ x ∈ g.getters, ∀ (e : Endian) (m : Mem) (arg : Nat),
        x.run g.table e m none arg = 0 ∧ x.log g.table e m none arg = []) ∧
    (∀ x ∈ g.setters, ∀ (e : Endian) (m : Mem) (arg v : Nat),
        x.run g.table e m none arg v = m ∧ x.log g.table e m none arg v = []) ∧
    (∀ i ∈ g.inits, ∀ (e : Endian) (m : Mem) (pv : Nat),
        i.run g e m none pv = some (m, if i.legacy then -22 else 0)) ∧
    (∀ x ∈ g.genericGetters, ∀ (e : Endian) (m : Mem) (pdu : Option Nat) (arg : Nat),
        arg < 2 ^ x.fieldParamBits → g.table.length ≤ arg →
        x.run g.table e m pdu arg = 0 ∧ x.log g.table e m pdu arg = []) ∧
    (∀ x ∈ g.genericSetters, ∀ (e : Endian) (m : Mem) (pdu : Option Nat) (arg v : Nat),
        arg < 2 ^ x.fieldParamBits → g.table.length ≤ arg →
        x.run g.table e m pdu arg v = m ∧ x.log g.table e m pdu arg v = []) ∧
    (∀ l ∈ g.legacy, l.isGet = true → ∀ (e : Endian) (m : Mem) (pdu val : Option Nat) (field : Nat),
        (pdu = none ∨ val = none ∨ g.table.length ≤ field) →
        l.runGet g e m pdu val field = some (m, -22)) ∧
    (∀ l ∈ g.legacy, l.isGet = false → ∀ (e : Endian) (m : Mem) (pdu : Option Nat) (field v : Nat),
        (pdu = none ∨ g.table.length ≤ field) →
        l.runSet g e m pdu field v = some (m, -22)) := by
  have hc := h
  simp only [checkC11, Bool.and_eq_true, List.all_eq_true] at hc
  obtain ⟨⟨⟨⟨⟨⟨⟨hgg, hgs⟩, _⟩, _⟩, _⟩, hin⟩, _⟩, _⟩ := hc
  refine ⟨fun x _ e m arg => getter_null x g.table e m arg,
    fun x _ e m arg v => setter_null x g.table e m arg v, ?_, ?_, ?_, ?_, ?_⟩
  · intro i hi e m pv
    have := hin i hi
    unfold Init.run
    cases hl : i.legacy with
    | false => simp
    | true =>
      rw [hl] at this
      simp only [Bool.not_true, Bool.false_or, Bool.and_eq_true, beq_iff_eq] at this
      simp [this.1]
  · intro x hx e m pdu arg harg hout
    have hc := hgg x hx
    simp only [Bool.and_eq_true, tableArgsOK, beq_iff_eq] at hc
    exact getter_out_of_range g x (mem_genericGetters.mp hx).2 hc.1 e m pdu arg harg (hc.2.2 ▸ hout)
  · intro x hx e m pdu arg v harg hout
    have hc := hgs x hx
    simp only [Bool.and_eq_true, tableArgsOK, beq_iff_eq] at hc
    exact setter_out_of_range g x (mem_genericSetters.mp hx).2 hc.1 e m pdu arg v harg (hc.2.2 ▸ hout)
  · intro l hl hget e m pdu val field hbad
    obtain ⟨hgp, hgv, hb, herr, _, _⟩ := checkC11_legacy h hl
    unfold LegacyAcc.runGet
    rw [LegacyAcc.rejects_eq hgp hgv hb, hget, herr]
    rcases hbad with rfl | rfl | h'
    · simp
    · simp
    · simp [h']
  · intro l hl hget e m pdu field v hbad
    obtain ⟨hgp, hgv, hb, herr, _, _⟩ := checkC11_legacy h hl
    unfold LegacyAcc.runSet
    rw [LegacyAcc.rejects_eq hgp hgv hb, herr]
    rcases hbad with rfl | h'
    · simp
    · simp [h']

def atomsC11 (s : FormatSpec) (g : GenFormat) : List (String × Bool) :=
  g.genericGetters.map (fun x => ("identifier-not-narrowed:" ++ x.fn, noAliasing x.fieldParamBits x.fieldCastBits))
  ++ g.genericSetters.map (fun x => ("identifier-not-narrowed:" ++ x.fn, noAliasing x.fieldParamBits x.fieldCastBits))
  ++ g.legacy.map (fun l => ("legacy-guards:" ++ l.fn, l.guardPdu && (!l.isGet || l.guardVal)
        && l.bound == some g.table.length && l.err == -22 && l.ok == 0))
  ++ [("rest", checkC11 s g || !(g.genericGetters.all (fun x => noAliasing x.fieldParamBits x.fieldCastBits))
        || !(g.genericSetters.all (fun x => noAliasing x.fieldParamBits x.fieldCastBits)))]

def checkC12 (s : FormatSpec) (g : GenFormat) : Bool :=
  match s.legacy with
  | none => g.legacy.isEmpty && g.inits.all (fun i => !i.legacy)
  | some ls =>
    -- the wrappers exist, forward to the current generic accessor of the same format and
    -- exchange values of the width the Spec states
    g.legacy.all (fun l =>
        (if l.isGet then l.fn == ls.getFn && l.fwd == s.fnPrefix ++ "GetField"
         else l.fn == ls.setFn && l.fwd == s.fnPrefix ++ "SetField")
        && l.valBits == ls.valBits && (l.valBits == 32 || l.valBits == 64))
      && g.legacy.any (fun l => l.isGet && l.fn == ls.getFn)
      && g.legacy.any (fun l => !l.isGet && l.fn == ls.setFn)
      -- every legacy field name designates the same identifier as the current one
      && ls.aliases.all (fun (a, t) =>
          match g.enumValue (s.enumPrefix ++ t) with
          | some v => factIs g.facts ("macro:" ++ a) v
          | none => false)
      -- the packed legacy structures have the size of / overlay the current header
      && ls.structs.all (fun (n, sz, off) => factIs g.facts ("sizeof:" ++ n) sz
          && factIs g.facts ("offsetof_payload:" ++ n) off)
      && (ls.structs.foldl (fun acc (_, sz, _) => acc + sz) 0 == s.headerLen)
      -- no dedicated accessor is called like the generic one
      && s.fields.all (fun fs => s.getterName fs != s.fnPrefix ++ "GetField"
          && s.setterName fs != s.fnPrefix ++ "SetField")
      -- every field fits the exchanged value
      && s.fields.all (fun fs => decide (fs.width ≤ ls.valBits))

theorem checkC12_legacy {s : FormatSpec} {g : GenFormat} {ls : LegacySpec} (h : checkC12 s g = true)
    (hls : s.legacy = some ls) {l : LegacyAcc} (hl : l ∈ g.legacy) :
    l.fwd = s.fnPrefix ++ (if l.isGet then "GetField" else "SetField") ∧ l.valBits = ls.valBits ∧
      (l.valBits = 32 ∨ l.valBits = 64) ∧
      ∀ fs ∈ s.fields, s.getterName fs ≠ s.fnPrefix ++ "GetField" ∧ s.setterName fs ≠ s.fnPrefix ++ "SetField" ∧
        fs.width ≤ ls.valBits := by
  unfold checkC12 at h
  rw [hls] at h
  simp only [Bool.and_eq_true, List.all_eq_true, beq_iff_eq, bne_iff_ne, ne_eq, Bool.or_eq_true, decide_eq_true_eq] at h
  obtain ⟨⟨hfwd, hvb⟩, h3264⟩ := h.1.1.1.1.1.1.1 l hl
  refine ⟨?_, hvb, h3264, fun fs hfs => ⟨(h.1.2 fs hfs).1, (h.1.2 fs hfs).2, h.2 fs hfs⟩⟩
  cases hg : l.isGet <;> simp only [hg, if_true, if_false, Bool.false_eq_true, Bool.and_eq_true, beq_iff_eq] at hfwd ⊢ <;>
    exact hfwd.2

/-- **C12, reads.** For valid arguments the deprecated reader stores, in host byte order at
    the result location, exactly what the current by-identifier reader returns — hence (by
    C01) the field's wire bits — and returns success. -/
theorem legacyGet_eq_current (s : FormatSpec) (g : GenFormat) (h1 : checkC01 s g = true)
    (h11 : checkC11 s g = true) (h12 : checkC12 s g = true) (ls : LegacySpec) (hls : s.legacy = some ls)
    (l : LegacyAcc) (hl : l ∈ g.legacy) (hget : l.isGet = true) (fs : FieldSpec) (hfs : fs ∈ s.fields) :
    ∃ i x, g.enumValue fs.enumName = some i ∧ g.findGetter l.fwd = some x ∧
      ∀ (e : Endian) (m : Mem) (p v : Nat),
        l.runGet g e m (some p) (some v) i
          = some (store e (l.valBits / 8) m v (x.run g.table e m (some p) i), 0)
        ∧ x.run g.table e m (some p) i = specGet m p fs.first fs.width := by
  simp only [checkC01, Bool.and_eq_true, List.all_eq_true] at h1
  obtain ⟨i, hi, hilt, hall⟩ := genericGet_sound g fs (h1.1.1.1 fs hfs)
  obtain ⟨hgp, hgv, hb, -, hok, hfw⟩ := checkC11_legacy h11 hl
  rw [hget] at hfw
  obtain ⟨x, hx⟩ := Option.isSome_iff_exists.mp hfw
  have hxm : x ∈ g.getters := List.mem_of_find?_eq_some hx
  have hxn : x.fn = l.fwd := by simpa using List.find?_some hx
  -- the forward target is the generic reader of this format:
  -- a dedicated getter is called like some Spec field's getter, never `<prefix>GetField`
  obtain ⟨hfwd, hvb, -, h12⟩ := checkC12_legacy h12 hls hl
  rw [hget, if_pos rfl] at hfwd
  have hxg : x.field = none := by
    cases hf : x.field with
    | none => rfl
    | some _ =>
      obtain ⟨f2, hf2, hname, _⟩ := dedicatedGet_sound s g x (by simp [hf]) (h1.1.1.2 x hxm)
      exact absurd (hname.trans (hxn.trans hfwd)) (h12 f2 hf2).1
  refine ⟨i, x, hi, hx, fun e m p v => ?_⟩
  have hrun := hall x (mem_genericGetters.mpr ⟨hxm, hxg⟩) e m p
  refine ⟨?_, hrun⟩
  unfold LegacyAcc.runGet
  rw [LegacyAcc.rejects_eq hgp hgv hb, hx, hok]
  have : ¬ g.table.length ≤ i := Nat.not_le.mpr hilt
  simp only [Option.isNone_some, Bool.and_false, Bool.or_false, this, decide_false,
    Bool.false_eq_true, if_false]
  have hw : fs.width ≤ l.valBits := hvb ▸ (h12 fs hfs).2.2
  rw [hrun, Nat.mod_eq_of_lt (Nat.lt_of_lt_of_le (specGet_lt m p fs.first fs.width)
    (Nat.pow_le_pow_right (by decide) hw))]

/-- **C12, writes.** For valid arguments the deprecated writer has exactly the effect of the
    current by-identifier writer — hence (by C02) of the reference write — and returns
    success. -/
theorem legacySet_eq_current (s : FormatSpec) (g : GenFormat) (h2 : checkC02 s g = true)
    (h11 : checkC11 s g = true) (h12 : checkC12 s g = true) (ls : LegacySpec) (hls : s.legacy = some ls)
    (l : LegacyAcc) (hl : l ∈ g.legacy) (hset : l.isGet = false) (fs : FieldSpec) (hfs : fs ∈ s.fields) :
    ∃ i x, g.enumValue fs.enumName = some i ∧ g.findSetter l.fwd = some x ∧
      ∀ (e : Endian) (m : Mem) (p v : Nat), v < 2 ^ l.valBits →
        l.runSet g e m (some p) i v = some (x.run g.table e m (some p) i v, 0)
        ∧ x.run g.table e m (some p) i v = specSet m p fs.first fs.width (v % 2 ^ fs.width) := by
  simp only [checkC02, Bool.and_eq_true, List.all_eq_true] at h2
  obtain ⟨i, hi, hilt, hall⟩ := genericSet_sound g fs (h2.1.1.1 fs hfs)
  obtain ⟨hgp, hgv, hb, -, hok, hfw⟩ := checkC11_legacy h11 hl
  rw [hset] at hfw
  obtain ⟨x, hx⟩ := Option.isSome_iff_exists.mp hfw
  obtain ⟨hxm, hxn⟩ := findSetter_mem g l.fwd x hx
  obtain ⟨hfwd, -, h3264, h12⟩ := checkC12_legacy h12 hls hl
  rw [hset, if_neg Bool.false_ne_true] at hfwd
  have hxg : x.field = none := by
    cases hf : x.field with
    | none => rfl
    | some _ =>
      obtain ⟨f2, hf2, _, hname, _⟩ := dedicatedSet_sound s g x (by simp [hf]) (h2.1.1.2 x hxm)
      exact absurd (hname.trans (hxn.trans hfwd)) (h12 f2 hf2).2.1
  refine ⟨i, x, hi, hx, fun e m p v hv => ?_⟩
  have h64 : l.valBits ≤ 64 := by rcases h3264 with h' | h' <;> omega
  have hv64 : v < 2 ^ 64 := Nat.lt_of_lt_of_le hv (Nat.pow_le_pow_right (by decide) h64)
  refine ⟨?_, hall x (mem_genericSetters.mpr ⟨hxm, hxg⟩) e m p v hv64⟩
  unfold LegacyAcc.runSet
  rw [LegacyAcc.rejects_eq hgp hgv hb, hx, hok]
  have : ¬ g.table.length ≤ i := Nat.not_le.mpr hilt
  simp only [Option.isNone_some, Bool.and_false, Bool.or_false, this, decide_false,
    Bool.false_eq_true, if_false]
  rw [Nat.mod_eq_of_lt hv]

def atomsC12 (s : FormatSpec) (g : GenFormat) : List (String × Bool) :=
  match s.legacy with
  | none => [("no-legacy-api", checkC12 s g)]
  | some ls =>
    g.legacy.map (fun l => ("wrapper-forwards-to-current:" ++ l.fn,
        (if l.isGet then l.fn == ls.getFn && l.fwd == s.fnPrefix ++ "GetField"
         else l.fn == ls.setFn && l.fwd == s.fnPrefix ++ "SetField") && l.valBits == ls.valBits))
    ++ ls.aliases.map (fun (a, t) => ("alias:" ++ a,
        match g.enumValue (s.enumPrefix ++ t) with
        | some v => factIs g.facts ("macro:" ++ a) v
        | none => false))
    ++ ls.structs.map (fun (n, sz, off) => ("struct:" ++ n, factIs g.facts ("sizeof:" ++ n) sz
        && factIs g.facts ("offsetof_payload:" ++ n) off))
    ++ [("all", checkC12 s g)]

/-- **C17.** Two fields of two formats that the Spec places on the same wire bits are read
    and written identically through either view: same value out of every buffer, same bytes
    after every write. (That the pairs the standard shares *are* on the same bits is
    `Spec.shared_views_agree`; that each format's code implements its Spec layout is the
    C01/C02 check of that format.) -/
theorem C17_views (sa sb : FormatSpec) (ga gb : GenFormat)
    (ha1 : checkC01 sa ga = true) (hb1 : checkC01 sb gb = true)
    (ha2 : checkC02 sa ga = true) (hb2 : checkC02 sb gb = true)
    (fa fb : FieldSpec) (hfa : fa ∈ sa.fields) (hfb : fb ∈ sb.fields)
    (hf : fa.first = fb.first) (hw : fa.width = fb.width) :
    ∃ ia ib, ga.enumValue fa.enumName = some ia ∧ gb.enumValue fb.enumName = some ib ∧
      (∀ xa ∈ ga.genericGetters, ∀ xb ∈ gb.genericGetters, ∀ (e : Endian) (m : Mem) (p : Nat),
        xa.run ga.table e m (some p) ia = xb.run gb.table e m (some p) ib) ∧
      (∀ xa ∈ ga.genericSetters, ∀ xb ∈ gb.genericSetters, ∀ (e : Endian) (m : Mem) (p v : Nat),
        v < 2 ^ 64 → xa.run ga.table e m (some p) ia v = xb.run gb.table e m (some p) ib v) := by
  obtain ⟨ia, hia, hga⟩ := (C01_format sa ga ha1).1 fa hfa
  obtain ⟨ib, hib, hgb⟩ := (C01_format sb gb hb1).1 fb hfb
  obtain ⟨ia', hia', hsa⟩ := (C02_format sa ga ha2).1 fa hfa
  obtain ⟨ib', hib', hsb⟩ := (C02_format sb gb hb2).1 fb hfb
  rw [hia] at hia'; cases hia'
  rw [hib] at hib'; cases hib'
  refine ⟨ia, ib, hia, hib, ?_, ?_⟩
  · intro xa hxa xb hxb e m p
    rw [hga xa hxa e m p, hgb xb hxb e m p, hf, hw]
  · intro xa hxa xb hxb e m p v hv
    rw [hsa xa hxa e m p v hv, hsb xb hxb e m p v hv, hf, hw]

/-- Decidable form of "the shared pair is on the same bits" for an instance obligation. -/
def checkView (v : SharedView) : Bool :=
  (viewPairs v).all (fun p =>
    match p with
    | some (fa, fb) => fa.first == fb.first && fa.width == fb.width
    | none => false)

end O1722
