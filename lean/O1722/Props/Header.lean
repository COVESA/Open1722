/-
  C03 (operations touch only the declared header, whose size is the standard's) and C04 (initialisers
  yield the canonical header).
-/
import O1722.Props.Fields
import O1722.Lemmas.Log

namespace O1722
open Spec

def rowWithin (d : Desc) (len : Nat) : Bool := decide (4 * (d.quadlet + d.quadlets) ≤ len)

/-- Every row is valid and inside the Spec's header; every accessor indexes the table with
    the table's own length. -/
def checkRows (s : FormatSpec) (g : GenFormat) : Bool :=
  g.table.all (fun d => decide d.Valid && rowWithin d s.headerLen)
    && g.getters.all (fun x => tableArgsOK g x.table x.numFields)
    && g.setters.all (fun x => tableArgsOK g x.table x.numFields)

def factIs (probe : List (String × Int)) (key : String) (v : Nat) : Bool :=
  probe.lookup key == some (Int.ofNat v)

/-- Published header length = size of the header type = offset of its payload member
    = the wire format's header size (compiler-evaluated constants), a whole number of
    quadlets; every `memset` of an initialiser covers exactly the header type; the payload
    accessor is declared on the header type. -/
def checkSizes (s : FormatSpec) (g : GenFormat) : Bool :=
  let probe := g.facts
  factIs probe ("macro:" ++ s.lenMacro) s.headerLen
    && factIs probe ("sizeof:" ++ s.headerType) s.headerLen
    && factIs probe ("offsetof_payload:" ++ s.headerType) s.headerLen
    && s.headerLen % 4 == 0
    && g.inits.all (fun i => i.steps.all (fun st =>
        match st with
        | .memset0 ty len => ty == s.headerType && len == s.headerLen
        | _ => true))
    && g.payloadAcc.all (fun (_, ty) => ty == s.headerType)

def checkC03 (s : FormatSpec) (g : GenFormat) : Bool :=
  checkRows s g && checkSizes s g && g.opaqueFns.isEmpty

theorem rowWithin_le (d : Desc) (len : Nat) (h : rowWithin d len = true) :
    4 * (d.quadlet + (d.offset + d.bits + 31) / 32) ≤ len := by
  exact of_decide_eq_true h

def Access.inside (a : Access) (p len : Nat) : Prop := p ≤ a.addr ∧ a.addr + a.width ≤ p + len

theorem fieldAccess_inside (d : Desc) (p len : Nat) (a : Access) (h : FieldAccess d p a)
    (hw : rowWithin d len = true) : a.inside p len := by
  obtain ⟨hw4, _, hlo, hhi⟩ := h
  have hw' := rowWithin_le _ _ hw
  unfold Access.inside Desc.quadlets at *
  omega

theorem row_facts (s : FormatSpec) (g : GenFormat) (h : checkRows s g = true) (i : Nat) (d : Desc)
    (hrow : g.table[i]? = some d) : d.Valid ∧ rowWithin d s.headerLen = true := by
  simp only [checkRows, Bool.and_eq_true, List.all_eq_true, decide_eq_true_eq] at h
  exact h.1.1 d (List.mem_of_getElem? hrow)

/-- **C03, readers.** Whatever the arguments (NULL or not, any identifier), a recognised
    getter only *reads*, and only inside the format's header. -/
theorem getter_accesses (s : FormatSpec) (g : GenFormat) (h : checkRows s g = true)
    (x : Getter) (hx : x ∈ g.getters) (e : Endian) (m : Mem) (pdu : Option Nat) (arg : Nat) :
    ∀ a ∈ x.log g.table e m pdu arg,
      a.write = false ∧ ∃ p, pdu = some p ∧ a.inside p s.headerLen := by
  intro a ha
  unfold Getter.log at ha
  rcases getFieldLog_cases e g.table x.numFields m pdu (fieldArg x.field x.fieldCastBits arg)
    with hr | ⟨p, d, rfl, _, hrow, _⟩
  · rw [hr] at ha; cases ha
  · obtain ⟨hv, hw⟩ := row_facts s g h _ _ hrow
    obtain ⟨hfa, hwr⟩ := getFieldLog_accesses e g.table x.numFields m p _ _ hrow hv a ha
    exact ⟨hwr, p, rfl, fieldAccess_inside _ p _ a hfa hw⟩

/-- **C03, writers.** A recognised setter accesses only the format's header. -/
theorem setter_accesses (s : FormatSpec) (g : GenFormat) (h : checkRows s g = true)
    (x : Setter) (hx : x ∈ g.setters) (e : Endian) (m : Mem) (pdu : Option Nat) (arg v : Nat) :
    ∀ a ∈ x.log g.table e m pdu arg v, ∃ p, pdu = some p ∧ a.inside p s.headerLen := by
  intro a ha
  unfold Setter.log at ha
  rcases setFieldLog_cases e g.table x.numFields m pdu (fieldArg x.field x.fieldCastBits arg)
    (v % 2 ^ x.valueBits) with hr | ⟨p, d, rfl, _, hrow, _⟩
  · rw [hr] at ha; cases ha
  · obtain ⟨hv, hw⟩ := row_facts s g h _ _ hrow
    exact ⟨p, rfl, fieldAccess_inside _ p _ a
      (setFieldLog_accesses e g.table x.numFields m p _ _ _ hrow hv a ha) hw⟩

/-- The memory effect of a recognised setter (the model of the store, not only its log) is confined to
    the header as well. -/
theorem setter_frame (s : FormatSpec) (g : GenFormat) (h : checkRows s g = true)
    (x : Setter) (hx : x ∈ g.setters) (e : Endian) (m : Mem) (p arg v a : Nat)
    (ha : a < p ∨ p + s.headerLen ≤ a) :
    x.run g.table e m (some p) arg v a = m a := by
  unfold Setter.run
  rcases setFieldLog_cases e g.table x.numFields m (some p) (fieldArg x.field x.fieldCastBits arg)
    (v % 2 ^ x.valueBits) with hr | ⟨p', d, hp, hi, hrow, _⟩
  · unfold setField; rw [hr]
  · cases hp
    obtain ⟨hv, hw⟩ := row_facts s g h _ _ hrow
    have hw' := rowWithin_le _ _ hw
    rw [setField_spec e g.table x.numFields m p _ _ d hi hrow hv]
    exact specSet_frame _ _ _ _ _ _ (by unfold Desc.start; omega)

/-- **C03 for a whole format**: all recognised accessors stay inside the header, and the
    header's published length, type size and payload offset equal the Spec's. -/
theorem C03_format (s : FormatSpec) (g : GenFormat) (h : checkC03 s g = true) :
    (∀ x ∈ g.getters, ∀ (e : Endian) (m : Mem) (pdu : Option Nat) (arg : Nat),
        ∀ a ∈ x.log g.table e m pdu arg, a.write = false ∧ ∃ p, pdu = some p ∧ a.inside p s.headerLen) ∧
    (∀ x ∈ g.setters, ∀ (e : Endian) (m : Mem) (pdu : Option Nat) (arg v : Nat),
        ∀ a ∈ x.log g.table e m pdu arg v, ∃ p, pdu = some p ∧ a.inside p s.headerLen) ∧
    (∀ x ∈ g.setters, ∀ (e : Endian) (m : Mem) (p arg v a : Nat), (a < p ∨ p + s.headerLen ≤ a) →
        x.run g.table e m (some p) arg v a = m a) ∧
    factIs g.facts ("macro:" ++ s.lenMacro) s.headerLen = true ∧
    factIs g.facts ("sizeof:" ++ s.headerType) s.headerLen = true ∧
    factIs g.facts ("offsetof_payload:" ++ s.headerType) s.headerLen = true ∧
    s.headerLen % 4 = 0 := by
  simp only [checkC03, checkSizes, Bool.and_eq_true, beq_iff_eq] at h
  obtain ⟨⟨hr, ⟨⟨⟨⟨⟨h1, h2⟩, h3⟩, h4⟩, _⟩, _⟩⟩, _⟩ := h
  exact ⟨fun x hx e m pdu arg => getter_accesses s g hr x hx e m pdu arg,
    fun x hx e m pdu arg v => setter_accesses s g hr x hx e m pdu arg v,
    fun x hx e m p arg v a ha => setter_frame s g hr x hx e m p arg v a ha, h1, h2, h3, h4⟩

def covers (i : Nat) (w : Write) : Bool := decide (w.1 ≤ i ∧ i < w.1 + w.2.1)

def lastCover (ws : List Write) (i : Nat) : Option Write := ws.reverse.find? (covers i)

theorem applyWrites_cons (m : Mem) (pdu pv : Nat) (w : Write) (ws : List Write) :
    applyWrites m pdu pv (w :: ws)
      = applyWrites (specSet m pdu w.1 w.2.1 (w.2.2.eval pv % 2 ^ w.2.1)) pdu pv ws := rfl

theorem lastCover_cons (w : Write) (ws : List Write) (i : Nat) :
    lastCover (w :: ws) i = (lastCover ws i).or (if covers i w then some w else none) := by
  simp only [lastCover, List.reverse_cons, List.find?_append, List.find?_cons, List.find?_nil]
  split <;> simp_all

def writesWithin (ws : List Write) (len : Nat) : Bool := ws.all (fun w => decide (w.1 + w.2.1 ≤ 8 * len))

theorem applyWrites_frame (ws : List Write) (len : Nat) (h : writesWithin ws len = true)
    (m : Mem) (pdu pv a : Nat) (ha : a < pdu ∨ pdu + len ≤ a) : applyWrites m pdu pv ws a = m a := by
  induction ws generalizing m with
  | nil => rfl
  | cons w ws ih =>
    simp only [writesWithin, List.all_cons, Bool.and_eq_true, decide_eq_true_eq] at h
    rw [applyWrites_cons, ih (by simpa [writesWithin] using h.2)]
    apply specSet_frame
    omega

/-- A header bit as a function of the initialiser's parameter. -/
inductive SBit where
  | lit (b : Bool)
  | paramBit (j : Nat)
  deriving DecidableEq, Repr

def SBit.eval (pv : Nat) : SBit → Bool
  | .lit b => b
  | .paramBit j => pv.testBit j

def writeBit (w : Write) (i : Nat) : SBit :=
  let j := w.1 + w.2.1 - 1 - i
  match w.2.2 with
  | .const v => .lit ((v % 2 ^ w.2.1).testBit j)
  | .param b => if j < b ∧ j < w.2.1 then .paramBit j else .lit false

def headerBit (ws : List Write) (i : Nat) : SBit :=
  match lastCover ws i with
  | some w => writeBit w i
  | none => .lit false

theorem writeBit_eval (w : Write) (i pv : Nat) :
    (writeBit w i).eval pv = (w.2.2.eval pv % 2 ^ w.2.1).testBit (w.1 + w.2.1 - 1 - i) := by
  unfold writeBit
  cases w.2.2 with
  | const v => rfl
  | param b =>
    simp only [WVal.eval, Nat.testBit_mod_two_pow]
    split <;> rename_i h
    · simp [SBit.eval, h.1, h.2]
    · simp only [SBit.eval, Bool.false_eq, Bool.and_eq_false_imp, decide_eq_true_eq]
      exact fun h1 h2 => absurd ⟨h2, h1⟩ h

theorem applyWrites_bit (m : Mem) (pdu pv : Nat) (ws : List Write) (i : Nat) :
    wireBit (applyWrites m pdu pv ws) pdu i
      = match lastCover ws i with
        | some w => (writeBit w i).eval pv
        | none => wireBit m pdu i := by
  induction ws generalizing m with
  | nil => rfl
  | cons w ws ih =>
    rw [applyWrites_cons, ih, lastCover_cons, specSet_bits]
    cases lastCover ws i with
    | some w' => rfl
    | none =>
      simp only [covers, decide_eq_true_eq, Option.none_or, writeBit_eval]
      split <;> rfl

def sameEffect (ws₁ ws₂ : List Write) (len : Nat) : Bool :=
  (List.range (8 * len)).all (fun i => headerBit ws₁ i == headerBit ws₂ i)

theorem wireBit_zeroFill (m : Mem) (pdu len i : Nat) :
    wireBit (zeroFill m pdu len) pdu i = if i < 8 * len then false else wireBit m pdu i := by
  unfold wireBit zeroFill
  by_cases h : i < 8 * len
  · have : pdu ≤ pdu + i / 8 ∧ pdu + i / 8 < pdu + len := by omega
    rw [if_pos this, if_pos h]; simp
  · have : ¬ (pdu ≤ pdu + i / 8 ∧ pdu + i / 8 < pdu + len) := by omega
    rw [if_neg this, if_neg h]

/-- Bit `i` of a freshly initialised header is `headerBit ws i`, whatever the memory held and wherever the
    header lies. -/
theorem applyWrites_zeroFill_bit (ws : List Write) (len : Nat) (m : Mem) (pdu pv i : Nat) (hi : i < 8 * len) :
    wireBit (applyWrites (zeroFill m pdu len) pdu pv ws) pdu i = (headerBit ws i).eval pv := by
  rw [applyWrites_bit, wireBit_zeroFill, if_pos hi, headerBit]
  cases lastCover ws i <;> rfl

/-- So the order of the writes, and writes of zero, are irrelevant. -/
theorem applyWrites_eq_of_sameEffect (ws₁ ws₂ : List Write) (len : Nat)
    (h1 : writesWithin ws₁ len = true) (h2 : writesWithin ws₂ len = true)
    (h : sameEffect ws₁ ws₂ len = true) (m : Mem) (pdu pv : Nat) :
    applyWrites (zeroFill m pdu len) pdu pv ws₁ = applyWrites (zeroFill m pdu len) pdu pv ws₂ := by
  apply mem_ext_wire _ _ pdu
  · intro a ha
    rw [applyWrites_frame _ _ h1 _ _ _ _ (Or.inl ha), applyWrites_frame _ _ h2 _ _ _ _ (Or.inl ha)]
  · intro i
    by_cases hi : i < 8 * len
    · simp only [sameEffect, List.all_eq_true, List.mem_range, beq_iff_eq] at h
      rw [applyWrites_zeroFill_bit _ _ _ _ _ _ hi, applyWrites_zeroFill_bit _ _ _ _ _ _ hi, h i hi]
    · -- beyond the header the octets themselves are untouched
      rw [wireBit, wireBit, applyWrites_frame _ _ h1 _ _ _ _ (Or.inr (by omega)),
        applyWrites_frame _ _ h2 _ _ _ _ (Or.inr (by omega))]

theorem spec_writes_within :
    Spec.all.all (fun s => writesWithin (s.initWrites true) s.headerLen
      && writesWithin (s.initWrites false) s.headerLen) = true := by decide +kernel

theorem writesWithin_of_mem {s : FormatSpec} (h : s ∈ Spec.all) :
    writesWithin (s.initWrites true) s.headerLen = true ∧ writesWithin (s.initWrites false) s.headerLen = true :=
  Bool.and_eq_true_iff.mp (List.all_eq_true.mp spec_writes_within s h)

theorem canonical_frame (s : FormatSpec) (withArg : Bool) (h : writesWithin (s.initWrites withArg) s.headerLen = true)
    (pv : Nat) (m : Mem) (pdu a : Nat) (ha : a < pdu ∨ pdu + s.headerLen ≤ a) :
    s.canonical withArg pv m pdu a = m a := by
  unfold FormatSpec.canonical
  rw [applyWrites_frame _ _ h _ _ _ _ ha]
  unfold zeroFill
  rw [if_neg (by omega)]

theorem canonical_indep (s : FormatSpec) (withArg : Bool) (pv : Nat) (m₁ m₂ : Mem) (pdu : Nat)
    (h : ∀ a, (a < pdu ∨ pdu + s.headerLen ≤ a) → m₁ a = m₂ a) :
    s.canonical withArg pv m₁ pdu = s.canonical withArg pv m₂ pdu := by
  unfold FormatSpec.canonical
  congr 1
  funext a
  unfold zeroFill
  by_cases ha : pdu ≤ a ∧ a < pdu + s.headerLen
  · rw [if_pos ha, if_pos ha]
  · rw [if_neg ha, if_neg ha]; exact h a (by omega)

theorem canonical_idem (s : FormatSpec) (withArg : Bool) (h : writesWithin (s.initWrites withArg) s.headerLen = true)
    (pv : Nat) (m : Mem) (pdu : Nat) :
    s.canonical withArg pv (s.canonical withArg pv m pdu) pdu = s.canonical withArg pv m pdu :=
  canonical_indep s withArg pv _ _ pdu (fun a ha => canonical_frame s withArg h pv m pdu a ha)

/-- Resolve one initialiser step to the header write it performs, *by name through the
    Spec*: the generic writer with a Spec field's enumerator, or the dedicated setter whose
    name denotes a Spec field. -/
def stepWrite (s : FormatSpec) (g : GenFormat) : InitStep → Option Write
  | .setField fn field fieldVal value =>
    match g.findSetter fn, s.fields.find? (fun fs => fs.enumName == field) with
    | some x, some fs =>
      if x.field.isNone ∧ g.enumValue fs.enumName = some fieldVal ∧ value < 2 ^ 64
      then some (fs.first, fs.width, .const value) else none
    | _, _ => none
  | .setConst fn value =>
    match g.findSetter fn, s.fields.find? (fun fs => fs.acc != "" && s.setterName fs == fn) with
    | some x, some fs =>
      if x.field.isSome ∧ value < 2 ^ x.valueBits then some (fs.first, fs.width, .const value) else none
    | _, _ => none
  | .setParam fn bits =>
    match g.findSetter fn, s.fields.find? (fun fs => fs.acc != "" && s.setterName fs == fn) with
    | some x, some fs =>
      if x.field.isSome ∧ bits ≤ x.valueBits ∧ bits = fs.width then some (fs.first, fs.width, .param bits) else none
    | _, _ => none
  | .checkedSet fn field fieldVal value =>
    match g.legacy.find? (fun l => l.fn == fn && !l.isGet), s.fields.find? (fun fs => fs.enumName == field) with
    | some l, some fs =>
      match g.findSetter l.fwd, l.bound with
      | some x, some b =>
        if x.field.isNone ∧ fieldVal < b ∧ g.enumValue fs.enumName = some fieldVal ∧ value < 2 ^ l.valBits
            ∧ l.valBits ≤ 64
        then some (fs.first, fs.width, .const value) else none
      | _, _ => none
    | _, _ => none
  | _ => none

def initWritesGen (s : FormatSpec) (g : GenFormat) (i : Init) : Option (List Write) :=
  match g.flatten i.steps with
  | some (.memset0 _ len :: rest) => if len = s.headerLen then rest.mapM (stepWrite s g) else none
  | _ => none

/-- An initialiser is one the Spec knows (current or legacy) and has the canonical effect. -/
def checkInit (s : FormatSpec) (g : GenFormat) (i : Init) : Bool :=
  let withArg := i.legacy && (match s.legacy with | some l => l.initArg != "" | none => false)
  (if i.legacy then (match s.legacy with | some l => l.initFn == i.fn | none => false) else s.initFn == i.fn)
  && match initWritesGen s g i with
     | some ws => writesWithin ws s.headerLen && writesWithin (s.initWrites withArg) s.headerLen
         && sameEffect ws (s.initWrites withArg) s.headerLen
     | none => false

def checkC04 (s : FormatSpec) (g : GenFormat) : Bool :=
  g.inits.all (checkInit s g)
    && (s.initFn == "" || g.inits.any (fun i => i.fn == s.initFn && !i.legacy))
    && (match s.legacy with
        | some l => l.initFn == "" || g.inits.any (fun i => i.fn == l.initFn && i.legacy)
        | none => true)

theorem findSetter_mem (g : GenFormat) (fn : String) (x : Setter) (h : g.findSetter fn = some x) :
    x ∈ g.setters ∧ x.fn = fn :=
  ⟨List.mem_of_find?_eq_some h, by simpa using List.find?_some h⟩

theorem find_field_mem (s : FormatSpec) (p : FieldSpec → Bool) (fs : FieldSpec)
    (h : s.fields.find? p = some fs) : fs ∈ s.fields ∧ p fs = true :=
  ⟨List.mem_of_find?_eq_some h, List.find?_some h⟩

theorem inj_of_nodup_map {α β : Type} {f : α → β} {l : List α} (h : (l.map f).Nodup) {a b : α}
    (ha : a ∈ l) (hb : b ∈ l) (hab : f a = f b) : a = b :=
  have hn := List.pairwise_map.mp h
  List.Pairwise.forall_of_forall_of_flip (R := fun a b => f a = f b → a = b) (fun _ _ _ => rfl)
    (hn.imp fun hne e => absurd e hne) (hn.imp fun hne e => absurd e.symm hne) ha hb hab

def setterNames (s : FormatSpec) : List String :=
  (s.fields.filter (fun fs => fs.acc != "")).map s.setterName

theorem spec_setter_names_nodup : ∀ s ∈ Spec.all, (setterNames s).Nodup := by decide +kernel

theorem spec_setter_names_unique :
    Spec.all.all (fun s => s.fields.all (fun a => s.fields.all (fun b =>
      a.acc == "" || b.acc == "" || s.setterName a != s.setterName b || a == b))) = true := by
  simp only [List.all_eq_true, Bool.or_eq_true, beq_iff_eq, bne_iff_ne]
  intro s hs a ha b hb
  by_cases ha' : a.acc = ""
  · exact .inl (.inl (.inl ha'))
  by_cases hb' : b.acc = ""
  · exact .inl (.inl (.inr hb'))
  by_cases hab : s.setterName a = s.setterName b
  · exact .inr (inj_of_nodup_map (spec_setter_names_nodup s hs)
      (List.mem_filter.mpr ⟨ha, by simpa using ha'⟩) (List.mem_filter.mpr ⟨hb, by simpa using hb'⟩) hab)
  · exact .inl (.inr hab)

/-! The steps of an initialiser as header writes; needs the C02 check (the setters a step calls write the
    Spec's bit ranges) and unique setter names (`hu`, the form `spec_setter_names_unique` proves). -/
section
variable (s : FormatSpec) (g : GenFormat) (h2 : checkC02 s g = true)
include h2

theorem genericSet_run (x : Setter) (hx : x ∈ g.setters) (hnone : x.field.isNone = true)
    (fs : FieldSpec) (hfs : fs ∈ s.fields) (i : Nat) (hi : g.enumValue fs.enumName = some i) (e : Endian)
    (m : Mem) (pdu v : Nat) (hv : v < 2 ^ 64) :
    x.run g.table e m (some pdu) i v = specSet m pdu fs.first fs.width (v % 2 ^ fs.width) := by
  obtain ⟨j, hj, hall⟩ := (C02_format s g h2).1 fs hfs
  cases hi.symm.trans hj
  exact hall x (List.mem_filter.mpr ⟨hx, hnone⟩) e m pdu v hv

variable (hu : s.fields.all (fun a => s.fields.all (fun b =>
  a.acc == "" || b.acc == "" || s.setterName a != s.setterName b || a == b)) = true)
include hu

/-- Setter names are unique (`hu`), so `fs` is the field the C02 check resolved the setter to. -/
theorem dedicatedSet_run (fn : String) (x : Setter) (hfx : g.findSetter fn = some x) (hsome : x.field.isSome = true)
    (fs : FieldSpec) (hff : s.fields.find? (fun fs => fs.acc != "" && s.setterName fs == fn) = some fs)
    (e : Endian) (m : Mem) (pdu v : Nat) (hv : v < 2 ^ x.valueBits) :
    x.run g.table e m (some pdu) 0 v = specSet m pdu fs.first fs.width (v % 2 ^ fs.width) := by
  obtain ⟨hxm, hxn⟩ := findSetter_mem g fn x hfx
  obtain ⟨hfm, hfp⟩ := find_field_mem s _ fs hff
  simp only [Bool.and_eq_true, bne_iff_ne, beq_iff_eq] at hfp
  obtain ⟨fs', hfs', hacc', hname', _, hrun⟩ := (C02_format s g h2).2 x hxm hsome
  simp only [List.all_eq_true] at hu
  have := hu fs' hfs' fs hfm
  simp only [Bool.or_eq_true, beq_iff_eq, bne_iff_ne] at this
  rcases this with ((h' | h') | h') | rfl
  · exact absurd h' hacc'
  · exact absurd h' hfp.1
  · exact absurd (by rw [hname', hfp.2, hxn]) h'
  · exact hrun e m pdu 0 v hv

theorem stepWrite_sound (st : InitStep) (w : Write) (hw : stepWrite s g st = some w) (e : Endian) (pdu pv : Nat) (m : Mem) :
    st.run g e pdu pv m = some (specSet m pdu w.1 w.2.1 (w.2.2.eval pv % 2 ^ w.2.1)) := by
  -- in every case: the look-ups of `stepWrite` succeeded and its guard holds (the other branches
  -- give `none`), `w` is the write it names, and `InitStep.run` makes the same look-ups
  cases st with
  | memset0 | callInit => cases hw
  | setField fn field fieldVal value =>
    simp only [stepWrite] at hw
    split at hw <;> simp only [Option.ite_none_right_eq_some, Option.some.injEq, reduceCtorEq] at hw
    rename_i x fs hfx hff
    obtain ⟨⟨hnone, hen, hv⟩, rfl⟩ := hw
    simp only [InitStep.run, hfx, hnone, if_true, WVal.eval]
    rw [genericSet_run s g h2 x (findSetter_mem g fn x hfx).1 hnone fs (find_field_mem s _ fs hff).1
      fieldVal hen e m pdu value hv]
  | setConst fn value =>
    simp only [stepWrite] at hw
    split at hw <;> simp only [Option.ite_none_right_eq_some, Option.some.injEq, reduceCtorEq] at hw
    rename_i x fs hfx hff
    obtain ⟨⟨hsome, hv⟩, rfl⟩ := hw
    simp only [InitStep.run, hfx, hsome, if_true, WVal.eval]
    rw [dedicatedSet_run s g h2 hu fn x hfx hsome fs hff e m pdu value hv]
  | setParam fn bits =>
    simp only [stepWrite] at hw
    split at hw <;> simp only [Option.ite_none_right_eq_some, Option.some.injEq, reduceCtorEq] at hw
    rename_i x fs hfx hff
    obtain ⟨⟨hsome, hb, hbw⟩, rfl⟩ := hw
    simp only [InitStep.run, hfx, hsome, if_true, WVal.eval]
    rw [dedicatedSet_run s g h2 hu fn x hfx hsome fs hff e m pdu _
      (Nat.lt_of_lt_of_le (Nat.mod_lt _ (Nat.two_pow_pos bits)) (Nat.pow_le_pow_right (by decide) hb))]
  | checkedSet fn field fieldVal value =>
    simp only [stepWrite] at hw
    split at hw
    · rename_i l fs hfl hff
      split at hw <;> simp only [Option.ite_none_right_eq_some, Option.some.injEq, reduceCtorEq] at hw
      rename_i x b hfx hb
      obtain ⟨⟨hnone, hlt, hen, hv, h64⟩, rfl⟩ := hw
      simp only [InitStep.run, hfl, hfx, hb, hnone, hlt, and_self, if_true, WVal.eval]
      rw [Nat.mod_eq_of_lt hv, genericSet_run s g h2 x (findSetter_mem g l.fwd x hfx).1 hnone fs
        (find_field_mem s _ fs hff).1 fieldVal hen e m pdu value
        (Nat.lt_of_lt_of_le hv (Nat.pow_le_pow_right (by decide) h64))]
    · cases hw

theorem runSteps_writes (e : Endian) (pdu pv : Nat) :
    ∀ (steps : List InitStep) (ws : List Write) (m : Mem), steps.mapM (stepWrite s g) = some ws →
      runSteps g e pdu pv steps m = some (applyWrites m pdu pv ws) := by
  intro steps
  induction steps with
  | nil => intro ws m h; simp at h; subst h; rfl
  | cons st rest ih =>
    intro ws m h
    rw [List.mapM_cons] at h
    simp only [Option.bind_eq_bind, Option.bind_eq_some_iff] at h
    obtain ⟨w, hw, ws', hws', hcons⟩ := h
    simp only [Option.pure_def, Option.some.injEq] at hcons
    subst hcons
    simp only [runSteps, stepWrite_sound s g h2 hu st w hw e pdu pv m, Option.bind_some]
    rw [ih ws' _ hws', applyWrites_cons]

end

/-- **C04.** Every initialiser of the format (current API and legacy), run on any memory
    at any address, leaves exactly the canonical header — independently of what the buffer
    held before — and returns its success code. -/
theorem C04_format (s : FormatSpec) (g : GenFormat) (h2 : checkC02 s g = true)
    (hu : s.fields.all (fun a => s.fields.all (fun b =>
      a.acc == "" || b.acc == "" || s.setterName a != s.setterName b || a == b)) = true)
    (h4 : checkC04 s g = true) :
    ∀ i ∈ g.inits, ∃ withArg, ∀ (e : Endian) (m : Mem) (p pv : Nat),
      i.run g e m (some p) pv
        = some (s.canonical withArg pv m p, if i.legacy then i.ok else 0)
      ∧ writesWithin (s.initWrites withArg) s.headerLen = true := by
  intro i hi
  simp only [checkC04, Bool.and_eq_true, List.all_eq_true] at h4
  have hc := h4.1.1 i hi
  unfold checkInit at hc
  simp only [Bool.and_eq_true] at hc
  obtain ⟨_, hw⟩ := hc
  refine ⟨i.legacy && (match s.legacy with | some l => l.initArg != "" | none => false), ?_⟩
  intro e m p pv
  split at hw
  · rename_i ws hws
    simp only [Bool.and_eq_true] at hw
    obtain ⟨⟨hw1, hw2⟩, hse⟩ := hw
    refine ⟨?_, hw2⟩
    unfold initWritesGen at hws
    split at hws
    · rename_i ty len rest hflat
      split at hws
      · rename_i hlen
        unfold Init.run
        simp only [hflat, runSteps, InitStep.run, Option.bind_some]
        rw [runSteps_writes s g h2 hu e p pv rest ws _ hws]
        simp only [hlen]
        rw [applyWrites_eq_of_sameEffect ws _ s.headerLen hw1 hw2 hse]
        rfl
      · cases hws
    · cases hws
  · cases hw

def atomsC04 (s : FormatSpec) (g : GenFormat) : List (String × Bool) :=
  g.inits.map (fun i => ("init-is-canonical:" ++ i.fn, checkInit s g i))
  ++ [("spec-initialisers-present", checkC04 s g || !(g.inits.all (checkInit s g)))]

def atomsC03 (s : FormatSpec) (g : GenFormat) : List (String × Bool) :=
  let probe := g.facts
  (g.table.zipIdx.map (fun (d, i) => ("row-valid-and-within-header:" ++ toString i,
      decide d.Valid && rowWithin d s.headerLen)))
  ++ [("macro:" ++ s.lenMacro, factIs probe ("macro:" ++ s.lenMacro) s.headerLen),
      ("sizeof:" ++ s.headerType, factIs probe ("sizeof:" ++ s.headerType) s.headerLen),
      ("offsetof_payload:" ++ s.headerType, factIs probe ("offsetof_payload:" ++ s.headerType) s.headerLen),
      ("accessor-table-args", g.getters.all (fun x => tableArgsOK g x.table x.numFields)
          && g.setters.all (fun x => tableArgsOK g x.table x.numFields)),
      ("memset-extent-and-payload-accessor", checkSizes s g),
      ("no-opaque-functions", g.opaqueFns.isEmpty)]

end O1722
