/-
  A header as a record of NAMED fields: read-over-write for `getNamed` / `setNamed`, keyed on the names
  (`fieldNamed_inj`); every header write acts on each octet separately (`…_pointwise`).
-/
import O1722.Model.Can
import O1722.Props.History

namespace O1722
open Spec

theorem getNamed_eq (s : FormatSpec) (m : Mem) (pdu : Nat) (name : String) (fs : FieldSpec)
    (h : s.fieldNamed name = some fs) : getNamed s m pdu name = specGet m pdu fs.first fs.width := by
  unfold getNamed; rw [h]

theorem getField_eq_getNamed (s : FormatSpec) (tbl : List Desc) (n i : Nat) (name : String)
    (fs : FieldSpec) (d : Desc) (hfs : s.fieldNamed name = some fs) (hrow : tbl[i]? = some d) (hi : i < n)
    (hm : descMatches d fs = true) (e : Endian) (m : Mem) (p : Nat) :
    getField e tbl n m (some p) i = getNamed s m p name := by
  obtain ⟨hv, hg⟩ := descMatches_get d fs hm m p
  rw [getField_spec e tbl n m p i d hi hrow hv, hg, getNamed_eq s m p name fs hfs]

theorem setField_eq_setNamed (s : FormatSpec) (tbl : List Desc) (n i : Nat) (name : String)
    (fs : FieldSpec) (d : Desc) (hfs : s.fieldNamed name = some fs) (hrow : tbl[i]? = some d) (hi : i < n)
    (hm : descMatches d fs = true) (e : Endian) (m : Mem) (p v : Nat) :
    setField e tbl n m (some p) i v = setNamed s m p name v := by
  obtain ⟨hv, hb, hs⟩ := descMatches_set d fs hm m p (v % 2 ^ 64)
  rw [setField_spec e tbl n m p i v d hi hrow hv, hs]
  unfold setNamed
  rw [hfs]
  simp only
  rw [specSet_mod]

theorem getNamed_congr (s : FormatSpec) (hd : fieldsDisjoint s = true) (m₁ m₂ : Mem) (pdu : Nat)
    (name : String) (h : ∀ a, pdu ≤ a → a < pdu + s.headerLen → m₁ a = m₂ a) :
    getNamed s m₁ pdu name = getNamed s m₂ pdu name := by
  unfold getNamed
  cases hf : s.fieldNamed name with
  | none => rfl
  | some fs =>
    have hin := fieldsDisjoint_within hd (List.mem_of_find?_eq_some hf)
    exact specGet_congr_bytes _ _ _ _ _ fun a h1 h2 => h a (by omega) (by omega)

theorem getNamed_write_behind (s : FormatSpec) (hd : fieldsDisjoint s = true) (m : Mem) (pdu a : Nat)
    (bs : List Byte) (name : String) (ha : pdu + s.headerLen ≤ a) :
    getNamed s (m.write a bs) pdu name = getNamed s m pdu name :=
  getNamed_congr s hd _ _ pdu name fun x _ hx => Mem.write_outside _ _ _ _ (Or.inl (by omega))

theorem getNamed_view (s₁ s₂ : FormatSpec) (n₁ n₂ : String)
    (h : (s₁.fieldNamed n₁).map (fun fs => (fs.first, fs.width)) = (s₂.fieldNamed n₂).map (fun fs => (fs.first, fs.width)))
    (m : Mem) (pdu : Nat) : getNamed s₁ m pdu n₁ = getNamed s₂ m pdu n₂ := by
  -- a named read uses the field's position and width only
  have e : ∀ (s : FormatSpec) n, getNamed s m pdu n = (((s.fieldNamed n).map fun fs => (fs.first, fs.width)).map
      fun p => specGet m pdu p.1 p.2).getD 0 := fun s n => by
    unfold getNamed; cases s.fieldNamed n <;> rfl
  rw [e, e, h]

theorem setNamed_outside (s : FormatSpec) (hd : fieldsDisjoint s = true) (m : Mem) (pdu : Nat)
    (name : String) (v a : Nat) (ha : a < pdu ∨ pdu + s.headerLen ≤ a) :
    setNamed s m pdu name v a = m a := by
  unfold setNamed
  cases hf : s.fieldNamed name with
  | none => rfl
  | some fs =>
    have hin := fieldsDisjoint_within hd (List.mem_of_find?_eq_some hf)
    exact specSet_frame _ _ _ _ _ _ (by omega)

theorem getNamed_setNamed_self (s : FormatSpec) (m : Mem) (pdu : Nat) (a : String) (v : Nat) (fs : FieldSpec)
    (h : s.fieldNamed a = some fs) :
    getNamed s (setNamed s m pdu a v) pdu a = v % 2 ^ 64 % 2 ^ fs.width := by
  simp only [getNamed, setNamed, h, specGet_specSet, Nat.mod_mod]

theorem getNamed_setNamed_fit (s : FormatSpec) (m : Mem) (pdu : Nat) (a : String) (v k : Nat)
    (hv : v < 2 ^ k) (hw : (s.fieldNamed a).any (fun fs => decide (k ≤ fs.width ∧ k ≤ 64)) = true) :
    getNamed s (setNamed s m pdu a v) pdu a = v := by
  cases h : s.fieldNamed a with
  | none => rw [h] at hw; cases hw
  | some fs =>
    rw [h] at hw
    simp only [Option.any_some, decide_eq_true_eq] at hw
    rw [getNamed_setNamed_self s m pdu a v fs h,
      Nat.mod_eq_of_lt (Nat.lt_of_lt_of_le hv (Nat.pow_le_pow_right (by omega) hw.2)),
      Nat.mod_eq_of_lt (Nat.lt_of_lt_of_le hv (Nat.pow_le_pow_right (by omega) hw.1))]

/-- A field's enumerator is the format's prefix followed by the name it is looked up by, so a
    field is found under one name only. -/
theorem fieldNamed_inj {s : FormatSpec} {a b : String} {fs : FieldSpec} (ha : s.fieldNamed a = some fs)
    (hb : s.fieldNamed b = some fs) : a = b := by
  have ea := List.find?_some ha
  have eb := List.find?_some hb
  rw [beq_iff_eq] at ea eb
  exact (String.append_right_inj _).mp (ea.symm.trans eb)

theorem getNamed_setNamed_ne (s : FormatSpec) (hd : fieldsDisjoint s = true) (m : Mem) (pdu : Nat)
    (a b : String) (v : Nat) (hne : a ≠ b) :
    getNamed s (setNamed s m pdu a v) pdu b = getNamed s m pdu b := by
  unfold getNamed setNamed
  cases ha : s.fieldNamed a with
  | none => rfl
  | some fa =>
    cases hb : s.fieldNamed b with
    | none => rfl
    | some fb =>
      obtain ⟨i, hi⟩ := List.getElem?_of_mem (List.mem_of_find?_eq_some ha)
      obtain ⟨j, hj⟩ := List.getElem?_of_mem (List.mem_of_find?_eq_some hb)
      have hij : i ≠ j := fun h => hne (fieldNamed_inj ha (by rw [hb, ← hj, ← h, hi]))
      have := fieldsDisjoint_apart hd hi hj hij
      exact specGet_specSet_disjoint _ _ _ _ _ _ _ (by omega)

theorem getNamed_canonical (s : FormatSpec) (hd : fieldsDisjoint s = true) (wa : Bool) (pv : Nat) (m : Mem)
    (pdu : Nat) (name : String) :
    getNamed s (s.canonical wa pv m pdu) pdu name = getNamed s (s.canonical wa pv (fun _ => 0) 0) 0 name := by
  unfold getNamed
  cases hf : s.fieldNamed name with
  | none => rfl
  | some fs =>
    simp only [canonical_field s wa pv _ _ fs (fieldsDisjoint_within hd (List.mem_of_find?_eq_some hf))]

/-! ### byte `a` of the result depends only on byte `a` of the memory written to -/

theorem setNamed_pointwise (s : FormatSpec) (m₁ m₂ : Mem) (pdu : Nat) (name : String) (v a : Nat)
    (h : m₁ a = m₂ a) : setNamed s m₁ pdu name v a = setNamed s m₂ pdu name v a := by
  unfold setNamed
  cases s.fieldNamed name with
  | none => exact h
  | some fs => exact specSet_pointwise m₁ m₂ pdu _ _ _ a h

theorem setNamed_zeroFill_comm (s : FormatSpec) (hd : fieldsDisjoint s = true) (m : Mem)
    (pdu : Nat) (name : String) (v p l : Nat) (hp : pdu + s.headerLen ≤ p) :
    setNamed s (zeroFill m p l) pdu name v = zeroFill (setNamed s m pdu name v) p l := by
  funext a
  by_cases ha : p ≤ a ∧ a < p + l
  · rw [setNamed_outside s hd _ _ _ _ _ (Or.inr (by omega))]
    simp only [zeroFill, if_pos ha]
  · rw [zeroFill, if_neg ha]
    exact setNamed_pointwise s _ _ pdu name v a (if_neg ha)

theorem applyWrites_pointwise (m₁ m₂ : Mem) (pdu pv : Nat) (ws : List Write) (a : Nat) (h : m₁ a = m₂ a) :
    applyWrites m₁ pdu pv ws a = applyWrites m₂ pdu pv ws a := by
  unfold applyWrites
  induction ws generalizing m₁ m₂ with
  | nil => exact h
  | cons w ws ih =>
    exact ih _ _ (specSet_pointwise m₁ m₂ pdu _ _ _ a h)

theorem canonical_pointwise (s : FormatSpec) (wa : Bool) (pv : Nat) (m₁ m₂ : Mem) (pdu a : Nat)
    (h : (pdu ≤ a ∧ a < pdu + s.headerLen) ∨ m₁ a = m₂ a) :
    s.canonical wa pv m₁ pdu a = s.canonical wa pv m₂ pdu a := by
  apply applyWrites_pointwise
  unfold zeroFill
  split
  · rfl
  · exact h.resolve_left ‹_›

theorem hop_pointwise (s : FormatSpec) (pdu : Nat) (m₁ m₂ : Mem) (op : HOp) (a : Nat)
    (h : m₁ a = m₂ a) : op.apply s pdu m₁ a = op.apply s pdu m₂ a := by
  cases op with
  | init wa pv => exact canonical_pointwise s wa pv m₁ m₂ pdu a (Or.inr h)
  | set i v =>
    simp only [HOp.apply]
    cases s.fields[i]? with
    | none => exact h
    | some fs => exact specSet_pointwise m₁ m₂ pdu _ _ _ a h

theorem runRev_pointwise (s : FormatSpec) (pdu : Nat) (m₁ m₂ : Mem) (ops : List HOp) (a : Nat)
    (h : m₁ a = m₂ a) : runRev s pdu m₁ ops a = runRev s pdu m₂ ops a := by
  induction ops with
  | nil => exact h
  | cons op older ih => exact hop_pointwise s pdu _ _ op a ih

/-! ### the formats the builders and the example programs use -/

theorem can_disjoint : fieldsDisjoint Spec.can = true := fieldsDisjoint_of_mem (by simp [Spec.all])
theorem vss_disjoint : fieldsDisjoint Spec.vss = true := fieldsDisjoint_of_mem (by simp [Spec.all])
theorem acfCommon_disjoint : fieldsDisjoint Spec.acfCommon = true := fieldsDisjoint_of_mem (by simp [Spec.all])
theorem commonHeader_disjoint : fieldsDisjoint Spec.commonHeader = true := fieldsDisjoint_of_mem (by simp [Spec.all])

end O1722
