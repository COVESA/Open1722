/-
  C14: built for a little-endian or a big-endian host, every field accessor, initialiser and VSS
  codec function produces the same wire bytes from the same logical values and extracts the same
  logical values from the same wire bytes.  (The Model of Utils.c, of the formats' accessors and
  initialisers and of the VSS codec takes the host byte order `e`; these are the explicit
  "little = big" corollaries.  The Models of the CAN builders and of `Avtp_Vss_Pad` are written with
  the reference writer and have no byte-order parameter, so there is nothing to state for them.)
-/
import O1722.Lemmas.Holds
import O1722.Props.Header

namespace O1722
open Spec

theorem rdBe_indep (e : Endian) (k : Nat) (m : Mem) (a : Nat) :
    rdBe e k m a = rdBe .big k m a := by
  rw [rdBe_eq, rdBe_eq .big]

theorem wrBe_indep (e : Endian) (k : Nat) (m : Mem) (a x : Nat) :
    wrBe e k m a x = wrBe .big k m a x := by
  rw [wrBe_eq, wrBe_eq .big]

theorem wrElems_indep (e : Endian) (k : Nat) (m : Mem) (a : Nat) (xs : List Nat) :
    wrElems e k m a xs = wrElems .big k m a xs := by
  induction xs generalizing m a with
  | nil => rfl
  | cons x xs ih => simp only [wrElems]; rw [wrBe_indep e, ih]

theorem rdElems_indep (e : Endian) (k : Nat) (m : Mem) (a n : Nat) :
    rdElems e k m a n = rdElems .big k m a n := by
  induction n generalizing a with
  | zero => rfl
  | succ n ih => simp only [rdElems]; rw [rdBe_indep e, ih]

/-- **C14, Utils.c**: the generic reader and writer (valid descriptors). -/
theorem getField_endian (tbl : List Desc) (n : Nat) (m : Mem) (pdu i : Nat) (d : Desc)
    (hi : i < n) (hrow : tbl[i]? = some d) (hd : d.Valid) :
    getField .little tbl n m (some pdu) i = getField .big tbl n m (some pdu) i := by
  rw [getField_spec .little tbl n m pdu i d hi hrow hd, getField_spec .big tbl n m pdu i d hi hrow hd]

theorem setField_endian (tbl : List Desc) (n : Nat) (m : Mem) (pdu i v : Nat) (d : Desc)
    (hi : i < n) (hrow : tbl[i]? = some d) (hd : d.Valid) :
    setField .little tbl n m (some pdu) i v = setField .big tbl n m (some pdu) i v := by
  rw [setField_spec .little tbl n m pdu i v d hi hrow hd, setField_spec .big tbl n m pdu i v d hi hrow hd]

/-- **C14, accessors of a whole format**: every recognised getter and setter, for any
    arguments (NULL, out-of-range identifiers included). -/
theorem accessors_endian (s : FormatSpec) (g : GenFormat) (h : checkRows s g = true) :
    (∀ x ∈ g.getters, ∀ (m : Mem) (pdu : Option Nat) (arg : Nat),
        x.run g.table .little m pdu arg = x.run g.table .big m pdu arg) ∧
    (∀ x ∈ g.setters, ∀ (m : Mem) (pdu : Option Nat) (arg v : Nat),
        x.run g.table .little m pdu arg v = x.run g.table .big m pdu arg v) := by
  have hv := fun i d hrow => (row_facts s g h i d hrow).1
  constructor
  · intro x _ m pdu arg
    rw [Getter.run, Getter.run, getField_total .little _ _ _ _ _ (hv _),
      getField_total .big _ _ _ _ _ (hv _)]
  · intro x _ m pdu arg v
    rw [Setter.run, Setter.run, setField_total .little _ _ _ _ _ _ (hv _),
      setField_total .big _ _ _ _ _ _ (hv _)]

/-- **C14, initialisers**: they are compositions of `memset` and recognised setters. -/
theorem init_endian (s : FormatSpec) (g : GenFormat) (h2 : checkC02 s g = true)
    (hu : s.fields.all (fun a => s.fields.all (fun b =>
      a.acc == "" || b.acc == "" || s.setterName a != s.setterName b || a == b)) = true)
    (h4 : checkC04 s g = true) (i : Init) (hi : i ∈ g.inits) (m : Mem) (pdu : Option Nat) (pv : Nat) :
    i.run g .little m pdu pv = i.run g .big m pdu pv := by
  cases pdu with
  | none => rfl
  | some p =>
    obtain ⟨wa, hrun⟩ := C04_format s g h2 hu h4 i hi
    rw [(hrun .little m p pv).1, (hrun .big m p pv).1]

/-- **C14, VSS codec**: every function of the Model of Vss.c, for all inputs. -/
theorem vss_endian (e : Endian) (m : Mem) (pdu : Nat) :
    vssCalcPathLength e m pdu = vssCalcPathLength .big m pdu ∧
    (∀ p, vssSetPath e m pdu p = vssSetPath .big m pdu p) ∧
    vssGetPath e m pdu = vssGetPath .big m pdu ∧
    (∀ v, vssSetData e m pdu v = vssSetData .big m pdu v) ∧
    (∀ dst, vssGetData e m pdu dst = vssGetData .big m pdu dst) := by
  have hc : vssCalcPathLength e m pdu = vssCalcPathLength .big m pdu := by
    unfold vssCalcPathLength; rw [rdBe_indep e]
  refine ⟨hc, ?_, ?_, ?_, ?_⟩
  · intro p; unfold vssSetPath; simp only [wrBe_indep e]
  · unfold vssGetPath; simp only [rdBe_indep e]
  · intro v
    unfold vssSetData
    rw [hc]
    cases dtClass (vssDatatype m pdu) <;> cases v <;> simp only [wrBe_indep e, wrElems_indep e]
  · intro dst
    unfold vssGetData
    rw [hc]
    cases dtClass (vssDatatype m pdu) <;> simp only [rdBe_indep e, rdElems_indep e]

/-- **C14, VSS string-array functions.** -/
theorem vss_strings_endian (e : Endian) (m : Mem) (data : Nat) :
    (∀ ss total, vssSerialize e m data ss total = vssSerialize .big m data ss total) ∧
    (∀ bits total, vssCount e bits m data total = vssCount .big bits m data total) ∧
    (∀ adv total dsts ptr idx, vssDeserialize e adv m data total dsts ptr idx
        = vssDeserialize .big adv m data total dsts ptr idx) := by
  refine ⟨?_, ?_, ?_⟩
  · intro ss
    induction ss generalizing m data with
    | nil => intro total; rfl
    | cons s rest ih =>
      intro total
      simp only [vssSerialize, wrBe_indep e]
      exact ih _ _ _
  · intro bits total
    unfold vssCount
    have : ∀ fuel ptr idx log, vssCountLoop e m data (total % 2 ^ 16) fuel ptr idx log
        = vssCountLoop .big m data (total % 2 ^ 16) fuel ptr idx log := by
      intro fuel
      induction fuel with
      | zero => intro _ _ _; rfl
      | succ f ih => intro ptr idx log; simp only [vssCountLoop, rdBe_indep e, ih]
    rw [this]
  · intro adv total dsts
    induction dsts with
    | nil => intro _ _; rfl
    | cons d ds ih => intro ptr idx; simp only [vssDeserialize, rdBe_indep e, ih]

/-- The CAN builders and `Avtp_Vss_Pad` are expressed through the reference writer, which
    has no byte-order parameter at all; their only byte-order-dependent ingredient is the
    field writer, covered by `accessors_endian`. -/
theorem can_pad_have_no_endian_parameter : True := trivial

end O1722
