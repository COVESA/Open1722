/-
  C15: results do not depend on where the PDU lies in memory, and the library performs no access that
  assumes more than byte alignment.
-/
import O1722.Props.Fields
import O1722.Lemmas.Log

namespace O1722

/-- Under strict-alignment semantics an access faults when it is made through an lvalue that
    assumes alignment `align > 1` at an address that is not a multiple of it. -/
def Access.faults (a : Access) : Prop := 1 < a.align ∧ a.addr % a.align ≠ 0

instance (a : Access) : Decidable a.faults := by unfold Access.faults; exact inferInstance

theorem no_fault_of_bytewise (log : List Access) (h : ∀ a ∈ log, a.align = 1) :
    ∀ a ∈ log, ¬ a.faults := by
  intro a ha hf
  have := h a ha
  unfold Access.faults at hf
  omega

/-- `align = 1`: Utils.c moves the quadlet with `memcpy`. -/
theorem getLoop_bytewise (e : Endian) (d : Desc) (m : Mem) (pdu : Nat) :
    ∀ fuel qo pb res log, (∀ a ∈ log, a.align = 1) →
      ∀ a ∈ (getLoop e d m pdu fuel qo pb res log).2, a.align = 1 := by
  intro fuel qo pb res log
  rw [getLoop_eq_walk]
  refine walk_always d (getStep e d m pdu) (fun s => ∀ a ∈ s.2, a.align = 1) ?_ fuel qo pb (res, log)
  intro qo pb s hlt hs a ha
  simp only [getStep, getLoop, if_pos hlt] at ha
  rcases List.mem_append.mp ha with h | h
  · exact hs a h
  · rw [List.mem_singleton.mp h]

theorem setLoop_bytewise (e : Endian) (d : Desc) (pdu v : Nat) :
    ∀ fuel qo pb m log, (∀ a ∈ log, a.align = 1) →
      ∀ a ∈ (setLoop e d pdu v fuel qo pb m log).2, a.align = 1 := by
  intro fuel qo pb m log
  rw [setLoop_eq_walk]
  refine walk_always d (setStep e d pdu v) (fun s => ∀ a ∈ s.2, a.align = 1) ?_ fuel qo pb (m, log)
  intro qo pb s hlt hs a ha
  simp only [setStep, setLoop, if_pos hlt] at ha
  rcases List.mem_append.mp ha with h | h
  · exact hs a h
  · rcases List.mem_cons.mp h with h | h
    · rw [h]
    · rw [List.mem_singleton.mp h]

/-- **C15 (no alignment assumption).** No access of the generic reader or writer can fault,
    at any base address. -/
theorem utils_never_fault (e : Endian) (tbl : List Desc) (n : Nat) (m : Mem) (pdu : Option Nat) (i v : Nat) :
    (∀ a ∈ (getFieldLog e tbl n m pdu i).2, ¬ a.faults) ∧
    (∀ a ∈ (setFieldLog e tbl n m pdu i v).2, ¬ a.faults) := by
  constructor
  · apply no_fault_of_bytewise
    rcases getFieldLog_cases e tbl n m pdu i with h | ⟨p, d, _, _, _, h⟩
    · rw [h]; intro a ha; cases ha
    · rw [h]; exact getLoop_bytewise e d m p _ _ _ _ _ (by intro a ha; cases ha)
  · apply no_fault_of_bytewise
    rcases setFieldLog_cases e tbl n m pdu i v with h | ⟨p, d, _, _, _, h⟩
    · rw [h]; intro a ha; cases ha
    · rw [h]; exact setLoop_bytewise e d p _ _ _ _ _ _ (by intro a ha; cases ha)

/-- Why it matters: the same quadlet access made through a `uint32_t*` lvalue faults as soon
    as the PDU sits at an odd address. -/
theorem typed_access_faults_at_odd_address :
    (⟨1001, 4, 4, false⟩ : Access).faults ∧ ¬ (⟨1001, 4, 1, false⟩ : Access).faults := by decide

def shiftMem (m : Mem) (k : Nat) : Mem := fun a => m (a + k)

theorem wireBit_shift (m : Mem) (pdu k i : Nat) : wireBit (shiftMem m k) pdu i = wireBit m (pdu + k) i := by
  unfold wireBit shiftMem
  have : pdu + i / 8 + k = pdu + k + i / 8 := by omega
  rw [this]

theorem specGet_shift (m : Mem) (pdu k s w : Nat) :
    specGet (shiftMem m k) pdu s w = specGet m (pdu + k) s w := by
  apply Nat.eq_of_testBit_eq; intro j
  rw [specGet_testBit, specGet_testBit, wireBit_shift]

/-- **C15 (placement independence, reads).** The same PDU bytes at any other byte address
    give the same field value. -/
theorem getField_placement (e : Endian) (tbl : List Desc) (n : Nat) (m : Mem) (pdu k i : Nat) (d : Desc)
    (hi : i < n) (hrow : tbl[i]? = some d) (hd : d.Valid) :
    getField e tbl n (shiftMem m k) (some pdu) i = getField e tbl n m (some (pdu + k)) i := by
  rw [getField_spec e tbl n _ pdu i d hi hrow hd, getField_spec e tbl n m (pdu + k) i d hi hrow hd,
    specGet_shift]

/-- **C15 (placement independence, writes).** Writing a field of the PDU placed `k` bytes
    further on yields the same bytes, `k` bytes further on. -/
theorem setField_placement (e : Endian) (tbl : List Desc) (n : Nat) (m : Mem) (pdu k i v : Nat) (d : Desc)
    (hi : i < n) (hrow : tbl[i]? = some d) (hd : d.Valid) (a : Nat) :
    setField e tbl n (shiftMem m k) (some pdu) i v a = setField e tbl n m (some (pdu + k)) i v (a + k) := by
  rw [setField_spec e tbl n _ pdu i v d hi hrow hd, setField_spec e tbl n m (pdu + k) i v d hi hrow hd]
  unfold specSet shiftMem
  by_cases h : pdu ≤ a
  · have h' : pdu + k ≤ a + k := by omega
    rw [if_pos h, if_pos h']
    have : a + k - (pdu + k) = a - pdu := by omega
    rw [this]
  · have h' : ¬ pdu + k ≤ a + k := by omega
    rw [if_neg h, if_neg h']

/-- Regenerated obligation: no function of the file accesses memory through an lvalue wider
    than a byte obtained by casting a pointer that only promises byte alignment. -/
def checkC15 (g : GenFormat) : Bool := g.typedSites.isEmpty && g.opaqueFns.isEmpty

end O1722
