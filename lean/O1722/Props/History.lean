/-
  C05: under ANY finite history of initialisations and field writes a header behaves as a record of
  independent fields.

  Stated at the Spec level (reference writer `specSet`, canonical header): that every real
  entry point — generic, dedicated, legacy writer; current and legacy initialiser — *is* one
  of these two operations is C02_format / C04_format / legacySet_eq_current; the obligations
  checkC02, checkC04 and checkC11 are instance obligations of C05 as well.
-/
import O1722.Props.Header

namespace O1722
open Spec

inductive HOp where
  /-- any initialiser of the format (`withArg`/`pv`: the legacy CVF one and its argument) -/
  | init (withArg : Bool) (pv : Nat)
  /-- any writer of field number `i` (Spec order) with value `v` -/
  | set (i : Nat) (v : Nat)
  deriving Repr

def HOp.apply (s : FormatSpec) (pdu : Nat) (m : Mem) : HOp → Mem
  | .init wa pv => s.canonical wa pv m pdu
  | .set i v =>
    match s.fields[i]? with
    | some fs => specSet m pdu fs.first fs.width (v % 2 ^ fs.width)
    | none => m

/-- Run a history, oldest operation first. -/
def runHist (s : FormatSpec) (pdu : Nat) (ops : List HOp) (m : Mem) : Mem :=
  ops.foldl (HOp.apply s pdu) m

/-- The same, most recent operation first (convenient for induction). -/
def runRev (s : FormatSpec) (pdu : Nat) (m0 : Mem) : List HOp → Mem
  | [] => m0
  | op :: older => op.apply s pdu (runRev s pdu m0 older)

theorem runRev_eq_foldr (s : FormatSpec) (pdu : Nat) (m : Mem) (ops : List HOp) :
    runRev s pdu m ops = ops.foldr (fun op m => op.apply s pdu m) m := by
  induction ops with
  | nil => rfl
  | cons op ops ih => rw [runRev, ih, List.foldr_cons]

theorem runHist_eq_runRev (s : FormatSpec) (pdu : Nat) (ops : List HOp) (m : Mem) :
    runHist s pdu ops m = runRev s pdu m ops.reverse := by
  rw [runRev_eq_foldr, List.foldr_reverse]; rfl

/-- Content of field `fs` in a freshly initialised header (independent of address and of
    what the memory held). -/
def initValue (s : FormatSpec) (wa : Bool) (pv : Nat) (fs : FieldSpec) : Nat :=
  specGet (s.canonical wa pv (fun _ => 0) 0) 0 fs.first fs.width

/-- The value field number `j` must read after a history (most recent first): the last value
    written to it modulo its width, else its initialised content, else its initial content. -/
def expected (s : FormatSpec) (pdu : Nat) (m0 : Mem) (j : Nat) (fs : FieldSpec) : List HOp → Nat
  | [] => specGet m0 pdu fs.first fs.width
  | .set i v :: older => if i = j then v % 2 ^ fs.width else expected s pdu m0 j fs older
  | .init wa pv :: _ => initValue s wa pv fs

def fieldsDisjoint (s : FormatSpec) : Bool :=
  s.fields.zipIdx.all (fun (a, i) => s.fields.zipIdx.all (fun (b, j) =>
    i == j || decide (a.first + a.width ≤ b.first ∨ b.first + b.width ≤ a.first)))
  && s.fields.all (fun a => decide (a.first + a.width ≤ 8 * s.headerLen))

theorem spec_fields_disjoint : Spec.all.all fieldsDisjoint = true := by decide +kernel

theorem fieldsDisjoint_of_mem {s : FormatSpec} (h : s ∈ Spec.all) : fieldsDisjoint s = true :=
  List.all_eq_true.mp spec_fields_disjoint s h

theorem fieldsDisjoint_apart {s : FormatSpec} (hd : fieldsDisjoint s = true) {i j : Nat}
    {a b : FieldSpec} (hi : s.fields[i]? = some a) (hj : s.fields[j]? = some b) (hij : i ≠ j) :
    a.first + a.width ≤ b.first ∨ b.first + b.width ≤ a.first := by
  simp only [fieldsDisjoint, Bool.and_eq_true, List.all_eq_true] at hd
  have := hd.1 (a, i) (List.mem_zipIdx_iff_getElem?.mpr hi) (b, j) (List.mem_zipIdx_iff_getElem?.mpr hj)
  simpa [hij] using this

theorem fieldsDisjoint_within {s : FormatSpec} (hd : fieldsDisjoint s = true) {fs : FieldSpec}
    (h : fs ∈ s.fields) : fs.first + fs.width ≤ 8 * s.headerLen := by
  simp only [fieldsDisjoint, Bool.and_eq_true, List.all_eq_true, decide_eq_true_eq] at hd
  exact hd.2 fs h

theorem canonical_field (s : FormatSpec) (wa : Bool) (pv : Nat) (m : Mem) (pdu : Nat) (fs : FieldSpec)
    (hin : fs.first + fs.width ≤ 8 * s.headerLen) :
    specGet (s.canonical wa pv m pdu) pdu fs.first fs.width = initValue s wa pv fs := by
  unfold initValue FormatSpec.canonical
  apply Nat.eq_of_testBit_eq; intro k
  rw [specGet_testBit, specGet_testBit]
  by_cases hk : k < fs.width
  · rw [applyWrites_zeroFill_bit _ _ _ _ _ _ (by omega), applyWrites_zeroFill_bit _ _ _ _ _ _ (by omega)]
  · simp [hk]

/-- **C05 (fields).** After any history, every field reads as the last value written to it
    modulo its width — or its initialised / initial content if never written since. -/
theorem history_field (s : FormatSpec) (hd : fieldsDisjoint s = true) (pdu : Nat) (m0 : Mem)
    (j : Nat) (fs : FieldSpec) (hj : s.fields[j]? = some fs) :
    ∀ ops : List HOp,
      specGet (runRev s pdu m0 ops) pdu fs.first fs.width = expected s pdu m0 j fs ops := by
  intro ops
  induction ops with
  | nil => rfl
  | cons op older ih =>
    cases op with
    | init wa pv =>
      exact canonical_field s wa pv _ pdu fs (fieldsDisjoint_within hd (List.mem_of_getElem? hj))
    | set i v =>
      simp only [runRev, HOp.apply, expected]
      cases hi : s.fields[i]? with
      | none =>
        have : i ≠ j := by intro h; subst h; rw [hj] at hi; cases hi
        simp only [this]; exact ih
      | some fi =>
        by_cases hij : i = j
        · subst hij
          rw [hj] at hi; cases hi
          simp only [if_true]
          rw [specGet_specSet, Nat.mod_mod]
        · simp only [hij]
          rw [specGet_specSet_disjoint _ _ _ _ _ _ _ (by have := fieldsDisjoint_apart hd hi hj hij; omega)]
          exact ih

/-- **C05 (frame).** No history on a header changes a byte outside that header: operations
    on one buffer never influence another buffer. -/
theorem history_frame (s : FormatSpec) (hd : fieldsDisjoint s = true)
    (hw : writesWithin (s.initWrites true) s.headerLen = true ∧ writesWithin (s.initWrites false) s.headerLen = true)
    (pdu : Nat) (m0 : Mem) (a : Nat) (ha : a < pdu ∨ pdu + s.headerLen ≤ a) :
    ∀ ops : List HOp, runRev s pdu m0 ops a = m0 a := by
  intro ops
  induction ops with
  | nil => rfl
  | cons op older ih =>
    cases op with
    | init wa pv =>
      simp only [runRev, HOp.apply]
      cases wa with
      | true => rw [canonical_frame s true hw.1 pv _ pdu a ha]; exact ih
      | false => rw [canonical_frame s false hw.2 pv _ pdu a ha]; exact ih
    | set i v =>
      simp only [runRev, HOp.apply]
      cases hi : s.fields[i]? with
      | none => exact ih
      | some fi =>
        simp only []
        rw [specSet_frame _ _ _ _ _ _ (by have := fieldsDisjoint_within hd (List.mem_of_getElem? hi); omega)]
        exact ih

theorem expected_congr (s : FormatSpec) (pdu : Nat) (m₁ m₂ : Mem) (j : Nat) (fs : FieldSpec)
    (h : specGet m₁ pdu fs.first fs.width = specGet m₂ pdu fs.first fs.width) (ops : List HOp) :
    expected s pdu m₁ j fs ops = expected s pdu m₂ j fs ops := by
  induction ops with
  | nil => exact h
  | cons op older ih =>
    cases op with
    | init wa pv => rfl
    | set i v => simp only [expected, ih]

theorem expected_untouched (s : FormatSpec) (pdu : Nat) (m : Mem) (j : Nat) (fs : FieldSpec)
    (ops : List HOp) (h : ∀ op ∈ ops, ∃ i v, op = .set i v ∧ i ≠ j) :
    expected s pdu m j fs ops = specGet m pdu fs.first fs.width := by
  induction ops with
  | nil => rfl
  | cons op older ih =>
    obtain ⟨i, v, rfl, hij⟩ := h op (List.mem_cons_self ..)
    rw [expected, if_neg hij, ih fun op hop => h op (List.mem_cons_of_mem _ hop)]

/-- A history run over a base memory that agrees with `m` on the header: what every builder
    ("prepare the payload area, then write header fields") is. -/
theorem history_over (s : FormatSpec) (hd : fieldsDisjoint s = true)
    (hw : writesWithin (s.initWrites true) s.headerLen = true ∧ writesWithin (s.initWrites false) s.headerLen = true)
    (pdu : Nat) (m base : Mem) (hb : ∀ a, a < pdu + s.headerLen → base a = m a) (ops : List HOp) :
    (∀ j fs, s.fields[j]? = some fs →
      specGet (runRev s pdu base ops) pdu fs.first fs.width = expected s pdu m j fs ops) ∧
    (∀ a, (a < pdu ∨ pdu + s.headerLen ≤ a) → runRev s pdu base ops a = base a) := by
  refine ⟨fun j fs hj => ?_, fun a ha => history_frame s hd hw pdu base a ha ops⟩
  rw [history_field s hd pdu base j fs hj]
  have hin := fieldsDisjoint_within hd (List.mem_of_getElem? hj)
  exact expected_congr s pdu _ _ j fs (specGet_congr_bytes _ _ pdu _ _ fun a _ ha => hb a (by omega)) ops

theorem specSet_comm (m : Mem) (pdu s₁ w₁ v₁ s₂ w₂ v₂ : Nat) (h : s₁ + w₁ ≤ s₂ ∨ s₂ + w₂ ≤ s₁) :
    specSet (specSet m pdu s₁ w₁ v₁) pdu s₂ w₂ v₂ = specSet (specSet m pdu s₂ w₂ v₂) pdu s₁ w₁ v₁ := by
  apply mem_ext_wire _ _ pdu
  · intro a ha; simp only [specSet_below _ _ _ _ _ _ ha]
  · intro i
    simp only [specSet_bits]
    by_cases h1 : s₁ ≤ i ∧ i < s₁ + w₁ <;> by_cases h2 : s₂ ≤ i ∧ i < s₂ + w₂ <;> simp [h1, h2]
    omega

theorem specSet_idem (m : Mem) (pdu s w v : Nat) :
    specSet (specSet m pdu s w v) pdu s w v = specSet m pdu s w v := by
  apply mem_ext_wire _ _ pdu
  · intro a ha; simp only [specSet_below _ _ _ _ _ _ ha]
  · intro i
    simp only [specSet_bits]
    by_cases h1 : s ≤ i ∧ i < s + w <;> simp [h1]

/-- **C05 (bytes).** Bit-level form: after a history every header bit inside field `j` is
    the corresponding bit of that field's expected value, so the header octets are the
    reference encoding of exactly those values. -/
theorem history_bits (s : FormatSpec) (hd : fieldsDisjoint s = true) (pdu : Nat) (m0 : Mem)
    (j : Nat) (fs : FieldSpec) (hj : s.fields[j]? = some fs) (ops : List HOp) (i : Nat)
    (hi : fs.first ≤ i ∧ i < fs.first + fs.width) :
    wireBit (runRev s pdu m0 ops) pdu i
      = (expected s pdu m0 j fs ops).testBit (fs.first + fs.width - 1 - i) := by
  rw [← history_field s hd pdu m0 j fs hj ops, specGet_testBit]
  have h1 : fs.first + fs.width - 1 - i < fs.width := by omega
  have h2 : fs.first + fs.width - 1 - (fs.first + fs.width - 1 - i) = i := by omega
  simp [h1, h2]

example : fieldsDisjoint Spec.can = true := fieldsDisjoint_of_mem (by simp [Spec.all])
example : (Spec.can.fields[1]?).map (·.width) = some 9 := by decide

end O1722
