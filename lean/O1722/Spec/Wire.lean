/-
  Spec/Wire.lean — the wire view of a PDU: a byte memory, its bits numbered the way
  IEEE 1722 numbers them (bit 0 = most significant bit of the first octet), and the
  bit-level reference reader / writer.  Nothing here knows about quadlets, masks,
  shifts or host byte order: this is the *meaning* of "the field's bit range, most
  significant bit first, in network byte order".
-/
namespace O1722

/-- A byte. -/
abbrev Byte := Fin 256

/-- Total byte memory.  A PDU is a base address into it. -/
abbrev Mem := Nat → Byte

/-- Wire bit `i` of the PDU at `pdu`: bit `7 - i%8` of octet `i/8` (MSB first). -/
def wireBit (m : Mem) (pdu i : Nat) : Bool :=
  (m (pdu + i / 8)).val.testBit (7 - i % 8)

/-- Reference reader: the `w` wire bits starting at bit `s`, MSB first, as a number. -/
def specGet (m : Mem) (pdu s : Nat) : Nat → Nat
  | 0 => 0
  | w + 1 => 2 * specGet m pdu s w + (wireBit m pdu (s + w)).toNat

/-- A byte from its 8 bits, `f 0` being the most significant. -/
def byteOfBits (f : Nat → Bool) : Byte :=
  ⟨(f 0).toNat * 128 + (f 1).toNat * 64 + (f 2).toNat * 32 + (f 3).toNat * 16
    + (f 4).toNat * 8 + (f 5).toNat * 4 + (f 6).toNat * 2 + (f 7).toNat, by
    cases f 0 <;> cases f 1 <;> cases f 2 <;> cases f 3 <;> cases f 4 <;> cases f 5
      <;> cases f 6 <;> cases f 7 <;> decide⟩

/-- Reference writer.  Memory below the PDU is untouched by definition; at and above it
    every byte is rebuilt from its own bits with the field's bits replaced (the identity
    outside the field; `specSet_bits` states it wire bit by wire bit).  The old byte is read
    once, so nested writes stay cheap to evaluate. -/
def specSet (m : Mem) (pdu s w v : Nat) : Mem := fun a =>
  let b := m a
  if pdu ≤ a then
    byteOfBits (fun k =>
      let i := 8 * (a - pdu) + k
      if s ≤ i ∧ i < s + w then v.testBit (s + w - 1 - i) else b.val.testBit (7 - k))
  else b

/-- Zero `len` octets at `p` (what `memset(p, 0, len)` does). -/
def zeroFill (m : Mem) (p len : Nat) : Mem := fun a => if p ≤ a ∧ a < p + len then 0 else m a

/-- Store one byte. -/
def Mem.set (m : Mem) (a : Nat) (b : Byte) : Mem := fun x => if x = a then b else m x

/-- Store a list of bytes at consecutive addresses. -/
def Mem.write (m : Mem) (a : Nat) : List Byte → Mem
  | [] => m
  | b :: bs => (m.set a b).write (a + 1) bs

theorem Mem.write_apply (m : Mem) (a : Nat) (bs : List Byte) (x : Nat) :
    (m.write a bs) x = if h : a ≤ x ∧ x < a + bs.length then bs[x - a]'(by omega) else m x := by
  induction bs generalizing m a with
  | nil =>
    have : ¬ (a ≤ x ∧ x < a + ([] : List Byte).length) := by simp
    rw [dif_neg this]; rfl
  | cons b bs ih =>
    rw [Mem.write, ih]
    by_cases h1 : x = a
    · subst h1
      have : ¬ (x + 1 ≤ x ∧ x < x + 1 + bs.length) := by omega
      simp [this, Mem.set]
    · by_cases h2 : a + 1 ≤ x ∧ x < a + 1 + bs.length
      · have h3 : a ≤ x ∧ x < a + (b :: bs).length := by simp; omega
        rw [dif_pos h2, dif_pos h3]
        have : x - a = (x - (a + 1)) + 1 := by omega
        simp [this]
      · have h3 : ¬ (a ≤ x ∧ x < a + (b :: bs).length) := by simp; omega
        rw [dif_neg h2, dif_neg h3]
        simp [Mem.set, h1]

/-- Closed form of `Mem.write` (one bounds test and one list lookup per read instead of one
    closure per byte); proved equal and used by compiled code (the driver). -/
def Mem.writeFast (m : Mem) (a : Nat) (bs : List Byte) : Mem :=
  fun x => if a ≤ x then (match bs[x - a]? with | some b => b | none => m x) else m x

@[csimp] theorem Mem.write_eq_writeFast : @Mem.write = @Mem.writeFast := by
  funext m a bs x
  rw [Mem.write_apply]
  unfold Mem.writeFast
  by_cases h : a ≤ x ∧ x < a + bs.length
  · rw [dif_pos h, if_pos h.1, List.getElem?_eq_getElem (by omega)]
  · rw [dif_neg h]
    by_cases h1 : a ≤ x
    · rw [if_pos h1, List.getElem?_eq_none (by omega)]
    · rw [if_neg h1]

/-- Read `n` consecutive bytes. -/
def Mem.read (m : Mem) (a : Nat) : Nat → List Byte
  | 0 => []
  | n + 1 => m a :: Mem.read m (a + 1) n

/-- bytes of `x`, most significant first (`k` bytes). -/
def bytesBE : Nat → Nat → List Byte
  | 0, _ => []
  | k + 1, x => Fin.ofNat 256 (x / 256 ^ k) :: bytesBE k x

/-- bytes of `x`, least significant first (`k` bytes). -/
def bytesLE : Nat → Nat → List Byte
  | 0, _ => []
  | k + 1, x => Fin.ofNat 256 x :: bytesLE k (x / 256)

end O1722
