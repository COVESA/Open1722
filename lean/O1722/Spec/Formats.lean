/-
  Spec/Formats.lean — the wire layouts of IEEE 1722-2016 (and of the repository's ACF-VSS
  description) as data, written by hand from the standard's header figures: every format
  is the sequence of its fields *in wire order with their widths*, unnamed (reserved) bit
  runs included as gaps.  First-bit positions are *computed* from that sequence; nothing
  here mentions quadlets, offsets or the C tables.

  Per field: the enumerator suffix the library uses to name it and the CamelCase suffix of
  its dedicated accessors ("" = the API deliberately has none, e.g. reserved fields).
-/
import O1722.Spec.Wire

namespace O1722.Spec

inductive Item where
  /-- named field: enumerator suffix, accessor suffix, width in bits -/
  | f (name acc : String) (w : Nat)
  /-- named field whose enumerator does not carry the format's prefix (full name given) -/
  | fx (enumName acc : String) (w : Nat)
  /-- unnamed / reserved bits -/
  | gap (w : Nat)
  deriving Repr, DecidableEq

def Item.width : Item → Nat
  | .f _ _ w => w | .fx _ _ w => w | .gap w => w

structure FieldSpec where
  enumName : String   -- full enumerator name
  acc      : String   -- accessor suffix ("" = none)
  first    : Nat      -- first wire bit (bit 0 = MSB of octet 0)
  width    : Nat
  deriving Repr, DecidableEq

/-- The deprecated by-identifier API of a format (five formats have one). -/
structure LegacySpec where
  getFn   : String
  setFn   : String
  initFn  : String := ""         -- "" = none
  valBits : Nat := 64            -- width of the value exchanged by get/set
  /-- the legacy initialiser takes a value for this field (enumerator suffix), "" = none -/
  initArg : String := ""
  /-- legacy field names (macros) and the enumerator suffix each must designate -/
  aliases : List (String × String) := []
  /-- packed legacy PDU structures overlaying the header: (struct, total size, payload offset) -/
  structs : List (String × Nat × Nat) := []
  deriving Repr

structure FormatSpec where
  name        : String         -- short name, also the source file stem
  file        : String         -- source file (relative to the repository)
  enumPrefix  : String         -- "AVTP_CAN_FIELD_"
  maxEnum     : String         -- "AVTP_CAN_FIELD_MAX"
  fnPrefix    : String         -- "Avtp_Can_"
  headerType  : String         -- "Avtp_Can_t"
  lenMacro    : String         -- "AVTP_CAN_HEADER_LEN"
  headerLen   : Nat            -- octets
  layout      : List Item
  /-- constants the initialiser must leave in the header (enumerator suffix, value);
      every other header bit is zero -/
  initConsts  : List (String × Nat) := []
  /-- name of the current-API initialiser ("" = the format has none) -/
  initFn      : String := ""
  /-- accessor names that deviate from `fnPrefix ++ "Get"/"Set" ++ acc` (expected ↦ actual) -/
  renames     : List (String × String) := []
  legacy      : Option LegacySpec := none
  deriving Repr

/-- Fields of a layout with their computed first bit. -/
def fieldsFrom (pre : String) : Nat → List Item → List FieldSpec
  | _, [] => []
  | pos, .f n a w :: rest => ⟨pre ++ n, a, pos, w⟩ :: fieldsFrom pre (pos + w) rest
  | pos, .fx n a w :: rest => ⟨n, a, pos, w⟩ :: fieldsFrom pre (pos + w) rest
  | pos, .gap w :: rest => fieldsFrom pre (pos + w) rest

def FormatSpec.fields (s : FormatSpec) : List FieldSpec := fieldsFrom s.enumPrefix 0 s.layout

def FormatSpec.totalBits (s : FormatSpec) : Nat := (s.layout.map Item.width).foldl (· + ·) 0

def FormatSpec.getterName (s : FormatSpec) (fs : FieldSpec) : String :=
  let n := s.fnPrefix ++ "Get" ++ fs.acc
  match s.renames.lookup n with | some r => r | none => n

def FormatSpec.setterName (s : FormatSpec) (fs : FieldSpec) : String :=
  let n := s.fnPrefix ++ "Set" ++ fs.acc
  match s.renames.lookup n with | some r => r | none => n

/-! ### canonical (initialised) headers -/

/-- Value of a header write: a constant, or the low `bits` bits of the initialiser's
    parameter (only the legacy CVF initialiser has one). -/
inductive WVal where
  | const (v : Nat)
  | param (bits : Nat)
  deriving Repr, DecidableEq

def WVal.eval (pv : Nat) : WVal → Nat
  | .const v => v
  | .param b => pv % 2 ^ b

/-- (first bit, width, value) -/
abbrev Write := Nat × Nat × WVal

/-- Perform header writes in order (reference writer). -/
def applyWrites (m : Mem) (pdu pv : Nat) (ws : List Write) : Mem :=
  ws.foldl (fun acc (w : Write) => specSet acc pdu w.1 w.2.1 (w.2.2.eval pv % 2 ^ w.2.1)) m

def FormatSpec.fieldNamed (s : FormatSpec) (suffix : String) : Option FieldSpec :=
  s.fields.find? (fun fs => fs.enumName == s.enumPrefix ++ suffix)

/-- The writes that produce the canonical header from a zeroed one; `withArg` adds the
    legacy initialiser's parameter field. -/
def FormatSpec.initWrites (s : FormatSpec) (withArg : Bool) : List Write :=
  s.initConsts.filterMap (fun (n, v) => (s.fieldNamed n).map (fun fs => (fs.first, fs.width, WVal.const v)))
  ++ (match withArg, s.legacy with
      | true, some l => match s.fieldNamed l.initArg with
        | some fs => [(fs.first, fs.width, WVal.param fs.width)]
        | none => []
      | _, _ => [])

/-- **The canonical header**: every header octet zero except the mandated constants;
    memory outside the header as before. -/
def FormatSpec.canonical (s : FormatSpec) (withArg : Bool) (pv : Nat) (m : Mem) (pdu : Nat) : Mem :=
  applyWrites (zeroFill m pdu s.headerLen) pdu pv (s.initWrites withArg)

open Item

/-! ### AVTPDU common header (IEEE 1722-2016 Figure 4) -/
def commonHeader : FormatSpec where
  name := "CommonHeader"; file := "src/avtp/CommonHeader.c"
  enumPrefix := "AVTP_COMMON_HEADER_FIELD_"; maxEnum := "AVTP_COMMON_HEADER_FIELD_MAX"
  fnPrefix := "Avtp_CommonHeader_"; headerType := "Avtp_CommonHeader_t"
  lenMacro := "AVTP_COMMON_HEADER_LEN"; headerLen := 4
  layout := [f "SUBTYPE" "Subtype" 8, f "H" "H" 1, f "VERSION" "Version" 3, gap 20]
  legacy := some { getFn := "avtp_pdu_get", setFn := "avtp_pdu_set", valBits := 32,
                   aliases := [("AVTP_FIELD_SUBTYPE", "SUBTYPE"), ("AVTP_FIELD_VERSION", "VERSION"),
                               ("AVTP_FIELD_MAX", "MAX")],
                   structs := [("struct avtp_common_pdu", 4, 4)] }

/-- The common *stream* header prefix shared by AAF, CVF, RVF, TSCF (Figure 5):
    subtype, sv, version, mr, 2 reserved bits, tv, sequence_num, 7 reserved bits, tu. -/
def streamQuadlet0 (named : Bool) : List Item :=
  [f "SUBTYPE" "Subtype" 8, f "SV" "Sv" 1, f "VERSION" "Version" 3, f "MR" "Mr" 1,
   (if named then f "RESERVED" "" 2 else gap 2), f "TV" "Tv" 1,
   f "SEQUENCE_NUM" "SequenceNum" 8,
   (if named then f "RESERVED_2" "" 7 else gap 7), f "TU" "Tu" 1]

/-! ### UDP encapsulation (Annex J): 32-bit encapsulation sequence number -/
def udp : FormatSpec where
  name := "Udp"; file := "src/avtp/Udp.c"
  enumPrefix := "AVTP_UDP_FIELD_"; maxEnum := "AVTP_UDP_FIELD_MAX"
  fnPrefix := "Avtp_Udp_"; headerType := "Avtp_Udp_t"
  lenMacro := "AVTP_UDP_HEADER_LEN"; headerLen := 4
  layout := [f "ENCAPSULATION_SEQ_NO" "EncapsulationSeqNo" 32]
  initFn := "Avtp_Udp_Init"

/-! ### AAF (clause 7), generic view: format-specific bits left opaque -/
def aaf : FormatSpec where
  name := "Aaf"; file := "src/avtp/aaf/Aaf.c"
  enumPrefix := "AVTP_AAF_FIELD_"; maxEnum := "AVTP_AAF_FIELD_MAX"
  fnPrefix := "Avtp_Aaf_"; headerType := "Avtp_Aaf_t"
  lenMacro := "AVTP_AAF_HEADER_LEN"; headerLen := 24
  layout := streamQuadlet0 false ++
    [f "STREAM_ID" "StreamId" 64, f "AVTP_TIMESTAMP" "AvtpTimestamp" 32,
     f "FORMAT" "Format" 8, f "AAF_FORMAT_SPECIFIC_DATA_1" "" 24,
     f "STREAM_DATA_LENGTH" "StreamDataLength" 16, f "AFSD" "Afsd" 3, f "SP" "Sp" 1,
     f "EVT" "Evt" 4, f "AAF_FORMAT_SPECIFIC_DATA_2" "" 8]

/-! ### AAF PCM (Figure 14): nsr 4, 2 reserved, channels_per_frame 10, bit_depth 8;
       3 reserved, sp, evt 4, 8 reserved -/
def pcm : FormatSpec where
  name := "Pcm"; file := "src/avtp/aaf/Pcm.c"
  enumPrefix := "AVTP_PCM_FIELD_"; maxEnum := "AVTP_PCM_FIELD_MAX"
  fnPrefix := "Avtp_Pcm_"; headerType := "Avtp_Pcm_t"
  lenMacro := "AVTP_PCM_HEADER_LEN"; headerLen := 24
  layout := streamQuadlet0 false ++
    [f "STREAM_ID" "StreamId" 64, f "AVTP_TIMESTAMP" "AvtpTimestamp" 32,
     f "FORMAT" "Format" 8, f "NSR" "Nsr" 4, gap 2,
     f "CHANNELS_PER_FRAME" "ChannelsPerFrame" 10, f "BIT_DEPTH" "BitDepth" 8,
     f "STREAM_DATA_LENGTH" "StreamDataLength" 16, gap 3, f "SP" "Sp" 1, f "EVT" "Evt" 4, gap 8]
  initConsts := [("SUBTYPE", 0x02), ("SV", 1)]
  initFn := "Avtp_Pcm_Init"
  legacy := some { getFn := "avtp_aaf_pdu_get", setFn := "avtp_aaf_pdu_set", initFn := "avtp_aaf_pdu_init",
                   aliases := [("AVTP_AAF_FIELD_SV", "SV"), ("AVTP_AAF_FIELD_MR", "MR"),
                     ("AVTP_AAF_FIELD_TV", "TV"), ("AVTP_AAF_FIELD_SEQ_NUM", "SEQUENCE_NUM"),
                     ("AVTP_AAF_FIELD_TU", "TU"), ("AVTP_AAF_FIELD_STREAM_ID", "STREAM_ID"),
                     ("AVTP_AAF_FIELD_TIMESTAMP", "AVTP_TIMESTAMP"),
                     ("AVTP_AAF_FIELD_STREAM_DATA_LEN", "STREAM_DATA_LENGTH"),
                     ("AVTP_AAF_FIELD_FORMAT", "FORMAT"), ("AVTP_AAF_FIELD_NSR", "NSR"),
                     ("AVTP_AAF_FIELD_CHAN_PER_FRAME", "CHANNELS_PER_FRAME"),
                     ("AVTP_AAF_FIELD_BIT_DEPTH", "BIT_DEPTH"), ("AVTP_AAF_FIELD_SP", "SP"),
                     ("AVTP_AAF_FIELD_EVT", "EVT"), ("AVTP_AAF_FIELD_MAX", "MAX")],
                   structs := [("struct avtp_stream_pdu", 24, 24)] }

/-! ### CVF (clause 8, Figure 19) -/
def cvf : FormatSpec where
  name := "Cvf"; file := "src/avtp/cvf/Cvf.c"
  enumPrefix := "AVTP_CVF_FIELD_"; maxEnum := "AVTP_CVF_FIELD_MAX"
  fnPrefix := "Avtp_Cvf_"; headerType := "Avtp_Cvf_t"
  lenMacro := "AVTP_CVF_HEADER_LEN"; headerLen := 24
  layout := streamQuadlet0 true ++
    [f "STREAM_ID" "StreamId" 64, f "AVTP_TIMESTAMP" "AvtpTimestamp" 32,
     f "FORMAT" "Format" 8, f "FORMAT_SUBTYPE" "FormatSubtype" 8, f "RESERVED_3" "" 16,
     f "STREAM_DATA_LENGTH" "StreamDataLength" 16, f "RESERVED_4" "" 2, f "PTV" "Ptv" 1,
     f "M" "M" 1, f "EVT" "Evt" 4, f "RESERVED_5" "" 8]
  initConsts := [("SUBTYPE", 0x03), ("SV", 1), ("FORMAT", 0x02)]
  initFn := "Avtp_Cvf_Init"
  legacy := some { getFn := "avtp_cvf_pdu_get", setFn := "avtp_cvf_pdu_set", initFn := "avtp_cvf_pdu_init",
                   initArg := "FORMAT_SUBTYPE", structs := [("struct avtp_stream_pdu", 24, 24)] }

/-! ### CVF H.264 payload header (8.5): h264_timestamp 32 -/
def h264 : FormatSpec where
  name := "H264"; file := "src/avtp/cvf/H264.c"
  enumPrefix := "AVTP_H264_FIELD_"; maxEnum := "AVTP_H264_FIELD_MAX"
  fnPrefix := "Avtp_H264_"; headerType := "Avtp_H264_t"
  lenMacro := "AVTP_H246_HEADER_LEN"; headerLen := 4
  layout := [f "TIMESTAMP" "Timestamp" 32]
  initFn := "Avtp_H264_Init"

/-! ### CVF MJPEG payload header (RFC 2435 §3.1) -/
def mjpeg : FormatSpec where
  name := "Mjpeg"; file := "src/avtp/cvf/Mjpeg.c"
  enumPrefix := "AVTP_MJPEG_FIELD_"; maxEnum := "AVTP_MJPEG_FIELD_MAX"
  fnPrefix := "Avtp_Mjpeg_"; headerType := "Avtp_Mjpeg_t"
  lenMacro := "AVTP_MJPEG_HEADER_LEN"; headerLen := 8
  layout := [f "TYPE_SPECIFIC" "TypeSpecific" 8, f "FRAGMENT_OFFSET" "FragmentOffset" 24,
             f "TYPE" "Type" 8, f "Q" "Q" 8, f "WIDTH" "Width" 8, f "HEIGHT" "Height" 8]
  initFn := "Avtp_Mjpeg_Init"

/-! ### CVF JPEG 2000 payload header (RFC 5371 §3) -/
def jpeg2000 : FormatSpec where
  name := "Jpeg2000"; file := "src/avtp/cvf/Jpeg2000.c"
  enumPrefix := "AVTP_JPEG2000_FIELD_"; maxEnum := "AVTP_JPEG2000_FIELD_MAX"
  fnPrefix := "Avtp_Jpeg2000_"; headerType := "Avtp_Jpeg2000_t"
  lenMacro := "AVTP_JPEG2000_HEADER_LEN"; headerLen := 8
  layout := [f "TP" "Tp" 2, f "MHF" "Mhf" 2, f "MH_ID" "MhId" 3, f "T" "T" 1,
             f "PRIORITY" "Priority" 8, f "TILE_NUMBER" "TileNumber" 16,
             f "RESERVED" "" 8, f "FRAGMENT_OFFSET" "FragmentOffset" 24]
  initFn := "Avtp_Jpeg2000_Init"

/-! ### CRF (clause 10, Figure 26) -/
def crf : FormatSpec where
  name := "Crf"; file := "src/avtp/Crf.c"
  enumPrefix := "AVTP_CRF_FIELD_"; maxEnum := "AVTP_CRF_FIELD_MAX"
  fnPrefix := "Avtp_Crf_"; headerType := "Avtp_Crf_t"
  lenMacro := "AVTP_CRF_HEADER_LEN"; headerLen := 20
  layout := [f "SUBTYPE" "Subtype" 8, f "SV" "Sv" 1, f "VERSION" "Version" 3, f "MR" "Mr" 1,
             f "RESERVED" "" 1, f "FS" "Fs" 1, f "TU" "Tu" 1, f "SEQUENCE_NUM" "SequenceNum" 8,
             f "TYPE" "Type" 8, f "STREAM_ID" "StreamId" 64, f "PULL" "Pull" 3,
             f "BASE_FREQUENCY" "BaseFrequency" 29, f "CRF_DATA_LENGTH" "CrfDataLength" 16,
             f "TIMESTAMP_INTERVAL" "TimestampInterval" 16]
  initConsts := [("SUBTYPE", 0x04), ("SV", 1)]
  initFn := "Avtp_Crf_Init"
  legacy := some { getFn := "avtp_crf_pdu_get", setFn := "avtp_crf_pdu_set", initFn := "avtp_crf_pdu_init",
                   aliases := [("AVTP_CRF_FIELD_SEQ_NUM", "SEQUENCE_NUM"),
                     ("AVTP_CRF_FIELD_BASE_FREQ", "BASE_FREQUENCY"),
                     ("AVTP_CRF_FIELD_CRF_DATA_LEN", "CRF_DATA_LENGTH")],
                   structs := [("struct avtp_crf_pdu", 20, 20)] }

/-! ### RVF (1722-2016 clause 11 as amended; raw header 2 quadlets) -/
def rvf : FormatSpec where
  name := "Rvf"; file := "src/avtp/Rvf.c"
  enumPrefix := "AVTP_RVF_FIELD_"; maxEnum := "AVTP_RVF_FIELD_MAX"
  fnPrefix := "Avtp_Rvf_"; headerType := "Avtp_Rvf_t"
  lenMacro := "AVTP_RVF_HEADER_LEN"; headerLen := 32
  layout := streamQuadlet0 true ++
    [f "STREAM_ID" "StreamId" 64, f "AVTP_TIMESTAMP" "AvtpTimestamp" 32,
     f "ACTIVE_PIXELS" "ActivePixels" 16, f "TOTAL_LINES" "TotalLines" 16,
     f "STREAM_DATA_LENGTH" "StreamDataLength" 16, f "AP" "Ap" 1, f "RESERVED_3" "" 1,
     f "F" "F" 1, f "EF" "Ef" 1, f "EVT" "Evt" 4, f "PD" "Pd" 1, f "I" "I" 1,
     f "RESERVED_4" "" 6,
     f "RESERVED_5" "" 8, f "PIXEL_DEPTH" "PixelDepth" 4, f "PIXEL_FORMAT" "PixelFormat" 4,
     f "FRAME_RATE" "FrameRate" 8, f "COLORSPACE" "Colorspace" 4, f "NUM_LINES" "NumLines" 4,
     f "RESERVED_6" "" 8, f "I_SEQ_NUM" "ISeqNum" 8, f "LINE_NUMBER" "LineNumber" 16]
  initConsts := [("SUBTYPE", 0x07), ("SV", 1)]
  initFn := "Avtp_Rvf_Init"
  renames := [("Avtp_Rvf_SetF", "Avtp_Rvf_setF")]
  legacy := some { getFn := "avtp_rvf_pdu_get", setFn := "avtp_rvf_pdu_set", initFn := "avtp_rvf_pdu_init",
                   aliases := [("AVTP_RVF_FIELD_SEQ_NUM", "SEQUENCE_NUM"),
                     ("AVTP_RVF_FIELD_TIMESTAMP", "AVTP_TIMESTAMP"),
                     ("AVTP_RVF_FIELD_STREAM_DATA_LEN", "STREAM_DATA_LENGTH"),
                     ("AVTP_RVF_FIELD_RAW_PIXEL_DEPTH", "PIXEL_DEPTH"),
                     ("AVTP_RVF_FIELD_RAW_PIXEL_FORMAT", "PIXEL_FORMAT"),
                     ("AVTP_RVF_FIELD_RAW_FRAME_RATE", "FRAME_RATE"),
                     ("AVTP_RVF_FIELD_RAW_COLORSPACE", "COLORSPACE"),
                     ("AVTP_RVF_FIELD_RAW_NUM_LINES", "NUM_LINES"),
                     ("AVTP_RVF_FIELD_RAW_I_SEQ_NUM", "I_SEQ_NUM"),
                     ("AVTP_RVF_FIELD_RAW_LINE_NUMBER", "LINE_NUMBER")],
                   structs := [("struct avtp_stream_pdu", 24, 24), ("struct avtp_rvf_payload", 8, 8)] }

/-! ### TSCF (clause 9.3, Figure 22): stream header whose quadlet 4 is reserved -/
def tscf : FormatSpec where
  name := "Tscf"; file := "src/avtp/acf/Tscf.c"
  enumPrefix := "AVTP_TSCF_FIELD_"; maxEnum := "AVTP_TSCF_FIELD_MAX"
  fnPrefix := "Avtp_Tscf_"; headerType := "Avtp_Tscf_t"
  lenMacro := "AVTP_TSCF_HEADER_LEN"; headerLen := 24
  layout := streamQuadlet0 false ++
    [f "STREAM_ID" "StreamId" 64, f "AVTP_TIMESTAMP" "AvtpTimestamp" 32, gap 32,
     f "STREAM_DATA_LENGTH" "StreamDataLength" 16, gap 16]
  initConsts := [("SUBTYPE", 0x05), ("SV", 1)]
  initFn := "Avtp_Tscf_Init"

/-! ### NTSCF (clause 9.2, Figure 21) -/
def ntscf : FormatSpec where
  name := "Ntscf"; file := "src/avtp/acf/Ntscf.c"
  enumPrefix := "AVTP_NTSCF_FIELD_"; maxEnum := "AVTP_NTSCF_FIELD_MAX"
  fnPrefix := "Avtp_Ntscf_"; headerType := "Avtp_Ntscf_t"
  lenMacro := "AVTP_NTSCF_HEADER_LEN"; headerLen := 12
  layout := [f "SUBTYPE" "Subtype" 8, f "SV" "Sv" 1, f "VERSION" "Version" 3, gap 1,
             f "NTSCF_DATA_LENGTH" "NtscfDataLength" 11, f "SEQUENCE_NUM" "SequenceNum" 8,
             f "STREAM_ID" "StreamId" 64]
  initConsts := [("SUBTYPE", 0x82), ("SV", 1)]
  initFn := "Avtp_Ntscf_Init"

/-! ### ACF message common header (9.4.1): acf_msg_type 7, acf_msg_length 9 -/
def acfCommon : FormatSpec where
  name := "AcfCommon"; file := "src/avtp/acf/AcfCommon.c"
  enumPrefix := "AVTP_ACF_FIELD_"; maxEnum := "AVTP_ACF_COMMON_FIELD_MAX"
  fnPrefix := "Avtp_AcfCommon_"; headerType := "Avtp_AcfCommon_t"
  lenMacro := "AVTP_ACF_COMMON_HEADER_LEN"; headerLen := 4
  layout := [f "ACF_MSG_TYPE" "AcfMsgType" 7, f "ACF_MSG_LENGTH" "AcfMsgLength" 9, gap 16]

def acfHead : List Item := [f "ACF_MSG_TYPE" "AcfMsgType" 7, f "ACF_MSG_LENGTH" "AcfMsgLength" 9]

/-! ### ACF FlexRay (9.4.2, Figure 24) -/
def flexRay : FormatSpec where
  name := "FlexRay"; file := "src/avtp/acf/FlexRay.c"
  enumPrefix := "AVTP_FLEXRAY_FIELD_"; maxEnum := "AVTP_FLEXRAY_FIELD_MAX"
  fnPrefix := "Avtp_FlexRay_"; headerType := "Avtp_FlexRay_t"
  lenMacro := "AVTP_FLEXRAY_HEADER_LEN"; headerLen := 16
  layout := acfHead ++
    [f "PAD" "Pad" 2, f "MTV" "Mtv" 1, f "FR_BUS_ID" "FrBusId" 5, f "RESERVED" "" 2,
     f "CHAN" "Chan" 2, f "STR" "Str" 1, f "SYN" "Syn" 1, f "PRE" "Pre" 1, f "NFI" "Nfi" 1,
     f "MESSAGE_TIMESTAMP" "MessageTimestamp" 64,
     f "FR_FRAME_ID" "FrFrameId" 11, f "RESERVED_2" "" 15, f "CYCLE" "Cycle" 6]
  initConsts := [("ACF_MSG_TYPE", 0)]
  initFn := "Avtp_FlexRay_Init"

/-! ### ACF CAN (9.4.3, Figure 25) -/
def can : FormatSpec where
  name := "Can"; file := "src/avtp/acf/Can.c"
  enumPrefix := "AVTP_CAN_FIELD_"; maxEnum := "AVTP_CAN_FIELD_MAX"
  fnPrefix := "Avtp_Can_"; headerType := "Avtp_Can_t"
  lenMacro := "AVTP_CAN_HEADER_LEN"; headerLen := 16
  layout := acfHead ++
    [f "PAD" "Pad" 2, f "MTV" "Mtv" 1, f "RTR" "Rtr" 1, f "EFF" "Eff" 1, f "BRS" "Brs" 1,
     f "FDF" "Fdf" 1, f "ESI" "Esi" 1, gap 3, f "CAN_BUS_ID" "CanBusId" 5,
     f "MESSAGE_TIMESTAMP" "MessageTimestamp" 64, gap 3,
     f "CAN_IDENTIFIER" "CanIdentifier" 29]
  initConsts := [("ACF_MSG_TYPE", 1)]
  initFn := "Avtp_Can_Init"

/-! ### ACF abbreviated CAN (9.4.4, Figure 26): CAN without the message timestamp -/
def canBrief : FormatSpec where
  name := "CanBrief"; file := "src/avtp/acf/CanBrief.c"
  enumPrefix := "AVTP_CAN_BRIEF_FIELD_"; maxEnum := "AVTP_CAN_BRIEF_FIELD_MAX"
  fnPrefix := "Avtp_CanBrief_"; headerType := "Avtp_CanBrief_t"
  lenMacro := "AVTP_CAN_BRIEF_HEADER_LEN"; headerLen := 8
  layout := acfHead ++
    [f "PAD" "Pad" 2, f "MTV" "Mtv" 1, f "RTR" "Rtr" 1, f "EFF" "Eff" 1, f "BRS" "Brs" 1,
     f "FDF" "Fdf" 1, f "ESI" "Esi" 1, gap 3, f "CAN_BUS_ID" "CanBusId" 5, gap 3,
     f "CAN_IDENTIFIER" "CanIdentifier" 29]
  initConsts := [("ACF_MSG_TYPE", 2)]
  initFn := "Avtp_CanBrief_Init"

/-! ### ACF LIN (9.4.5, Figure 27) -/
def lin : FormatSpec where
  name := "Lin"; file := "src/avtp/acf/Lin.c"
  enumPrefix := "AVTP_LIN_FIELD_"; maxEnum := "AVTP_LIN_FIELD_MAX"
  fnPrefix := "Avtp_Lin_"; headerType := "Avtp_Lin_t"
  lenMacro := "AVTP_LIN_HEADER_LEN"; headerLen := 12
  layout := acfHead ++
    [f "PAD" "Pad" 2, f "MTV" "Mtv" 1, f "LIN_BUS_ID" "LinBusId" 5,
     f "LIN_IDENTIFIER" "LinIdentifier" 8, f "MESSAGE_TIMESTAMP" "MessageTimestamp" 64]
  initConsts := [("ACF_MSG_TYPE", 3)]
  initFn := "Avtp_Lin_Init"

/-! ### ACF MOST (9.4.6, Figure 28): five quadlets -/
def most : FormatSpec where
  name := "Most"; file := "src/avtp/acf/Most.c"
  enumPrefix := "AVTP_MOST_FIELD_"; maxEnum := "AVTP_MOST_FIELD_MAX"
  fnPrefix := "Avtp_Most_"; headerType := "Avtp_Most_t"
  lenMacro := "AVTP_MOST_HEADER_LEN"; headerLen := 20
  layout := acfHead ++
    [f "PAD" "Pad" 2, f "MTV" "Mtv" 1, f "MOST_NET_ID" "MostNetId" 5, f "RESERVED" "" 8,
     f "MESSAGE_TIMESTAMP" "MessageTimestamp" 64,
     f "DEVICE_ID" "DeviceId" 16, f "FBLOCK_ID" "FblockId" 8, f "INST_ID" "InstId" 8,
     f "FUNC_ID" "FuncId" 12, f "OP_TYPE" "OpType" 4, f "RESERVED_2" "" 16]
  initConsts := [("ACF_MSG_TYPE", 4)]
  initFn := "Avtp_Most_Init"

/-! ### ACF GPC (9.4.7, Figure 29): gpc_msg_id 48 -/
def gpc : FormatSpec where
  name := "Gpc"; file := "src/avtp/acf/Gpc.c"
  enumPrefix := "AVTP_GPC_FIELD_"; maxEnum := "AVTP_GPC_FIELD_MAX"
  fnPrefix := "Avtp_Gpc_"; headerType := "Avtp_Gpc_t"
  lenMacro := "AVTP_GPC_HEADER_LEN"; headerLen := 8
  layout := acfHead ++ [f "GPC_MSG_ID" "GpcMsgId" 48]
  initConsts := [("ACF_MSG_TYPE", 5)]
  initFn := "Avtp_Gpc_Init"

/-! ### ACF Sensor (9.4.10, Figure 32) -/
def sensor : FormatSpec where
  name := "Sensor"; file := "src/avtp/acf/Sensor.c"
  enumPrefix := "AVTP_SENSOR_FIELD_"; maxEnum := "AVTP_SENSOR_FIELD_MAX"
  fnPrefix := "Avtp_Sensor_"; headerType := "Avtp_Sensor_t"
  lenMacro := "AVTP_SENSOR_HEADER_LEN"; headerLen := 12
  layout := acfHead ++
    [f "MTV" "Mtv" 1, f "NUM_SENSOR" "NumSensor" 7, f "SZ" "Sz" 2,
     f "SENSOR_GROUP" "SensorGroup" 6, f "MESSAGE_TIMESTAMP" "MessageTimestamp" 64]
  initConsts := [("ACF_MSG_TYPE", 8)]
  initFn := "Avtp_Sensor_Init"

/-! ### ACF abbreviated Sensor (9.4.11, Figure 33) -/
def sensorBrief : FormatSpec where
  name := "SensorBrief"; file := "src/avtp/acf/SensorBrief.c"
  enumPrefix := "AVTP_SENSOR_BRIEF_FIELD_"; maxEnum := "AVTP_SENSOR_BRIEF_FIELD_MAX"
  fnPrefix := "Avtp_SensorBrief_"; headerType := "Avtp_SensorBrief_t"
  lenMacro := "AVTP_SENSOR_BRIEF_HEADER_LEN"; headerLen := 4
  layout := acfHead ++
    [f "MTV" "Mtv" 1, f "NUM_SENSOR" "NumSensor" 7, f "SZ" "Sz" 2,
     f "SENSOR_GROUP" "SensorGroup" 6]
  initConsts := [("ACF_MSG_TYPE", 9)]
  initFn := "Avtp_SensorBrief_Init"

/-! ### ACF-VSS (examples/acf-vss/protocol_description/acf-vss.md): fixed header 3 quadlets -/
def vss : FormatSpec where
  name := "Vss"; file := "src/avtp/acf/custom/Vss.c"
  enumPrefix := "AVTP_VSS_FIELD_"; maxEnum := "AVTP_VSS_FIELD_MAX"
  fnPrefix := "Avtp_Vss_"; headerType := "Avtp_Vss_t"
  lenMacro := "AVTP_VSS_FIXED_HEADER_LEN"; headerLen := 12
  layout := acfHead ++
    [f "PAD" "Pad" 2, f "MTV" "Mtv" 1, f "ADDR_MODE" "AddrMode" 2, f "VSS_OP" "OpCode" 3,
     f "VSS_DATATYPE" "Datatype" 8, f "MSG_TIMESTAMP" "MsgTimestamp" 64]
  initConsts := [("ACF_MSG_TYPE", 0x42)]
  initFn := "Avtp_Vss_Init"

/-! ### abbreviated ACF-VSS: no timestamp; the library also names three zero-width
       placeholders (timestamp, path, data) that denote no header bits -/
def vssBrief : FormatSpec where
  name := "VssBrief"; file := "src/avtp/acf/custom/VssBrief.c"
  enumPrefix := "AVTP_VSS_BRIEF_FIELD_"; maxEnum := "AVTP_VSS_BRIEF_FIELD_MAX"
  fnPrefix := "Avtp_VssBrief_"; headerType := "Avtp_VssBrief_t"
  lenMacro := "AVTP_VSS_BRIEF_HEADER_LEN"; headerLen := 4
  layout :=
    [f "ACF_MSG_TYPE" "" 7, f "ACF_MSG_LENGTH" "" 9, f "PAD" "" 2, f "MTV" "" 1,
     f "ADDR_MODE" "" 2, f "VSS_OP" "" 3, f "VSS_DATATYPE" "" 8,
     f "MSG_TIMESTAMP" "" 0, fx "AVTP_VSS_FIELD_VSS_PATH" "" 0, fx "AVTP_VSS_FIELD_VSS_DATA" "" 0]
  initConsts := [("ACF_MSG_TYPE", 0x43)]
  initFn := "Avtp_VssBrief_Init"

/-- All 23 header formats. -/
def all : List FormatSpec :=
  [commonHeader, udp, aaf, pcm, cvf, h264, mjpeg, jpeg2000, crf, rvf, tscf, ntscf, acfCommon,
   flexRay, can, canBrief, lin, most, gpc, sensor, sensorBrief, vss, vssBrief]

/-- Spec self-consistency: every layout fills its header exactly (a whole number of
    quadlets), so a typo in a width cannot go unnoticed. -/
theorem layouts_fill_headers :
    all.all (fun s => s.totalBits == 8 * s.headerLen && s.headerLen % 4 == 0) = true := by decide +kernel

/-! ### fields that several formats share (C17) -/

/-- (view A, view B, [(enumerator suffix in A, enumerator suffix in B)]) -/
structure SharedView where
  a : FormatSpec
  b : FormatSpec
  pairs : List (String × String)

def sameNames (ns : List String) : List (String × String) := ns.map (fun n => (n, n))

def streamCommon : List String :=
  ["SUBTYPE", "SV", "VERSION", "MR", "TV", "SEQUENCE_NUM", "TU", "STREAM_ID", "AVTP_TIMESTAMP",
   "STREAM_DATA_LENGTH"]

/-- The views the standard lets a receiver switch between. -/
def sharedViews : List SharedView :=
  -- AVTPDU common header in every stream format (sv plays the role of h)
  ([tscf, ntscf, aaf, pcm, cvf, crf, rvf].map (fun s =>
      ⟨commonHeader, s, [("SUBTYPE", "SUBTYPE"), ("H", "SV"), ("VERSION", "VERSION")]⟩))
  -- ACF common header in every ACF message
  ++ ([flexRay, can, canBrief, lin, most, gpc, sensor, sensorBrief, vss, vssBrief].map (fun s =>
      ⟨acfCommon, s, sameNames ["ACF_MSG_TYPE", "ACF_MSG_LENGTH"]⟩))
  -- the stream fields common to TSCF, AAF, AAF-PCM, CVF and RVF
  ++ [⟨tscf, aaf, sameNames streamCommon⟩, ⟨tscf, pcm, sameNames streamCommon⟩,
      ⟨tscf, cvf, sameNames streamCommon⟩, ⟨tscf, rvf, sameNames streamCommon⟩,
      ⟨aaf, cvf, sameNames streamCommon⟩, ⟨pcm, rvf, sameNames streamCommon⟩,
      ⟨cvf, rvf, sameNames (streamCommon ++ ["RESERVED", "RESERVED_2", "EVT"])⟩]
  -- AAF versus AAF-PCM
  ++ [⟨aaf, pcm, sameNames (streamCommon ++ ["FORMAT", "SP", "EVT"])⟩]

/-- A pair of fields, one per view, designating the same wire bits. -/
def viewPairs (v : SharedView) : List (Option (FieldSpec × FieldSpec)) :=
  v.pairs.map (fun (x, y) =>
    match v.a.fieldNamed x, v.b.fieldNamed y with
    | some fa, some fb => some (fa, fb)
    | _, _ => none)

/-- Spec self-consistency for C17: every shared pair exists in both layouts and occupies
    the same bit range in both. -/
theorem shared_views_agree :
    sharedViews.all (fun v => (viewPairs v).all (fun p =>
      match p with
      | some (fa, fb) => fa.first == fb.first && fa.width == fb.width
      | none => false)) = true := by decide +kernel

end O1722.Spec
