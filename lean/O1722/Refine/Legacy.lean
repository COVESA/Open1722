/-
  The deprecated by-identifier wrappers (`avtp_*_pdu_get/set`) as C text: `expectedLegacySetBody` /
  `expectedLegacyGetBody` rebuild the body a wrapper record of Gen/Data.lean stands for (argument checks,
  the forwarded call, the typed store through the out-parameter); when the C function of Gen/Cir.lean has
  that body and the current-API function it CALLS is, in the program, the generic accessor its record
  describes, running the wrapper gives the memory and return value `LegacyAcc.runSet` / `runGet` give — the
  objects C11_format / C12's `legacy*_eq_current` speak about; likewise the guard-and-forward legacy
  initialisers (`legacyInit_code`).  Instantiated per function in the regenerated Gen/InstLegacy.lean.
-/
import O1722.Refine.Inits
import O1722.Props.Api
open O1722 O1722.C
namespace O1722.Refine

def legacyGuardSet (b : Nat) : Expr :=
  .bin .lor .i32 (.bin .eq .u64 (.var 0) (.lit 0)) (.bin .ge .u32 (.var 1) (.cast .i32 .u32 (.lit b)))

def legacyGuardGet (b : Nat) : Expr :=
  .bin .lor .i32 (.bin .lor .i32 (.bin .eq .u64 (.var 0) (.lit 0)) (.bin .eq .u64 (.var 2) (.lit 0)))
    (.bin .ge .u32 (.var 1) (.cast .i32 .u32 (.lit b)))

def errRet : Stmt := .ret (some (.un .neg .i32 (.lit 22)))

/-- `if (pdu == NULL || field >= B) { return -EINVAL; } else { X_SetField(pdu, field, val); return 0; }`,
    `val` a `uint64_t` or (`avtp_pdu_set`) a `uint32_t`. -/
def expectedLegacySetBody (l : LegacyAcc) : Option Stmt :=
  match l.bound with
  | some b =>
    if l.isGet = false ∧ l.guardPdu = true ∧ l.fieldBits = 32 ∧ l.err = -22 ∧ l.ok = 0 then
      if l.valBits = 64 then
        some (.ite (legacyGuardSet b) errRet (.seq (.call none l.fwd [.var 0, .var 1, .var 2]) (.ret (some (.lit 0)))))
      else if l.valBits = 32 then
        some (.ite (legacyGuardSet b) errRet (.seq (.call none l.fwd [.var 0, .var 1, .cast .u32 .u64 (.var 2)]) (.ret (some (.lit 0)))))
      else none
    else none
  | none => none

/-- `if (pdu == NULL || val == NULL || field >= B) { return -EINVAL; } else { *val = X_GetField(pdu, field); return 0; }`;
    for a `uint32_t *val` (`avtp_pdu_get`) through `uint64_t temp` and `*val = (uint32_t)temp`. -/
def expectedLegacyGetBody (l : LegacyAcc) : Option Stmt :=
  match l.bound with
  | some b =>
    if l.isGet = true ∧ l.guardPdu = true ∧ l.guardVal = true ∧ l.fieldBits = 32 ∧ l.err = -22 ∧ l.ok = 0 then
      if l.valBits = 64 then
        some (.ite (legacyGuardGet b) errRet
          (.seq (.seq (.call (some 3) l.fwd [.var 0, .var 1]) (.storeVal (.var 2) 8 (.var 3))) (.ret (some (.lit 0)))))
      else if l.valBits = 32 then
        some (.ite (legacyGuardGet b) errRet
          (.seq (.seq (.call (some 4) l.fwd [.var 0, .var 1]) (.set 3 (.var 4)))
                (.seq (.storeVal (.var 2) 4 (.cast .u64 .u32 (.var 3))) (.ret (some (.lit 0))))))
      else none
    else none
  | none => none

/-- The body of a legacy initialiser that only guards against NULL and calls the current one
    (`avtp_crf_pdu_init`, `avtp_rvf_pdu_init`). -/
def expectedLegacyInitBody (i : Init) : Option Stmt :=
  match i.steps with
  | [.callInit fn] =>
    if i.legacy = true ∧ i.err = -22 ∧ i.ok = 0 then
      some (.ite (.bin .eq .u64 (.var 0) (.lit 0)) errRet (.seq (.call none fn [.var 0]) (.ret (some (.lit 0)))))
    else none
  | _ => none

theorem expectedLegacySetBody_some {l : LegacyAcc} {s : Stmt} (h : some s = expectedLegacySetBody l) :
    ∃ b valE, l.bound = some b ∧ l.isGet = false ∧ l.guardPdu = true ∧ l.err = -22 ∧ l.ok = 0 ∧
      s = .ite (legacyGuardSet b) errRet (.seq (.call none l.fwd [.var 0, .var 1, valE]) (.ret (some (.lit 0)))) ∧
      (l.valBits = 64 ∧ valE = .var 2 ∨ l.valBits = 32 ∧ valE = .cast .u32 .u64 (.var 2)) := by
  unfold expectedLegacySetBody at h
  split at h
  · rename_i b hb
    split at h
    · rename_i hc
      obtain ⟨hget, hgp, -, herr, hok⟩ := hc
      split at h
      · exact ⟨b, _, hb, hget, hgp, herr, hok, Option.some.inj h, .inl ⟨‹_›, rfl⟩⟩
      · split at h
        · exact ⟨b, _, hb, hget, hgp, herr, hok, Option.some.inj h, .inr ⟨‹_›, rfl⟩⟩
        · cases h
    · cases h
  · cases h

theorem expectedLegacyGetBody_some {l : LegacyAcc} {s : Stmt} (h : some s = expectedLegacyGetBody l) :
    ∃ b tail, l.bound = some b ∧ l.isGet = true ∧ l.guardPdu = true ∧ l.guardVal = true ∧ l.err = -22 ∧ l.ok = 0 ∧
      s = .ite (legacyGuardGet b) errRet tail ∧
      (l.valBits = 64 ∧ tail = .seq (.seq (.call (some 3) l.fwd [.var 0, .var 1]) (.storeVal (.var 2) 8 (.var 3)))
          (.ret (some (.lit 0)))
        ∨ l.valBits = 32 ∧ tail = .seq (.seq (.call (some 4) l.fwd [.var 0, .var 1]) (.set 3 (.var 4)))
          (.seq (.storeVal (.var 2) 4 (.cast .u64 .u32 (.var 3))) (.ret (some (.lit 0))))) := by
  unfold expectedLegacyGetBody at h
  split at h
  · rename_i b hb
    split at h
    · rename_i hc
      obtain ⟨hget, hgp, hgv, -, herr, hok⟩ := hc
      split at h
      · exact ⟨b, _, hb, hget, hgp, hgv, herr, hok, Option.some.inj h, .inl ⟨‹_›, rfl⟩⟩
      · split at h
        · exact ⟨b, _, hb, hget, hgp, hgv, herr, hok, Option.some.inj h, .inr ⟨‹_›, rfl⟩⟩
        · cases h
    · cases h
  · cases h

theorem neg22 : evalUn .neg .i32 22 = some (Ty.ofInt .i32 (-22)) := by
  simp only [evalUn, arith, Ty.signed, if_true]
  rw [toInt_i32_small 22 (by decide), fits_i32 _ (by decide) (by decide)]
  rfl

/-- `return -EINVAL;` -/
theorem exec_errRet {env : Env} {f : Nat} {L : Locals} {s : St} :
    exec env (f + 1) errRet L s = some (.ret (Ty.ofInt .i32 (-22)), L, s) :=
  exec_ret (by simp [evalE, neg22])

section
variable (e : Endian) (rom : Nat → Byte) (glob : String → Nat) (g : GenFormat) (tb : Nat)
  (hrom : RomTable rom tb g.table) (hvalid : ∀ d ∈ g.table, d.Valid) (hglob : glob g.tableName = tb)
include hrom hvalid hglob

theorem legacySet_code (l : LegacyAcc) (F : Fn) (hbody : some F.body = expectedLegacySetBody l)
    (x : Setter) (Fs : Fn) (hx : g.findSetter l.fwd = some x) (hxf : x.field = none)
    (hFs : findFn (Gen.Cir.prog e) l.fwd = some Fs) (hsb : some Fs.body = expectedSetterBody x)
    (ht : x.table = g.tableName) (hN : x.numFields < 256) (hNl : x.numFields ≤ g.table.length) (hvb : x.valueBits = 64)
    (pdu : Option Nat) (hpdu : ∀ p, pdu = some p → p ≠ 0 ∧ p + 1024 ≤ 18446744073709551616)
    (field value : Nat) (hf : field < 4294967296) (hv : value < 2 ^ l.valBits) (m : Mem)
    (hbound : ∀ b, l.bound = some b → b < 2147483648) :
    (exec (mkEnv e rom glob) 40 F.body (mkFrame [pdu.getD 0, field, value]) ⟨m, []⟩).map (fun r => (r.1, r.2.2.mem))
      = (l.runSet g e m pdu field value).map (fun r => (.ret (Ty.ofInt .i32 r.2), r.1)) := by
  obtain ⟨b, valE, hb, hget, hgp, herr, hok, hF, hvalE⟩ := expectedLegacySetBody_some hbody
  have hb31 := hbound b hb
  have hrej : l.rejects pdu (some 0) field = (pdu.isNone || decide (b ≤ field)) := by
    simp [LegacyAcc.rejects, hgp, hget, hb]
  -- the value as `X_SetField` receives it, whichever the width of the wrapper's parameter
  obtain ⟨hv64, hvalE⟩ : value < 18446744073709551616 ∧
      evalE (mkEnv e rom glob) (mkFrame [pdu.getD 0, field, value]) valE = some value := by
    rcases hvalE with ⟨h64, rfl⟩ | ⟨h32, rfl⟩
    · exact ⟨by rw [h64] at hv; exact hv, rfl⟩
    · have hv32 : value < 4294967296 := by rw [h32] at hv; exact hv
      exact ⟨by omega, by simp (disch := omega) [csem]⟩
  unfold LegacyAcc.runSet
  rw [hF, hrej]
  cases pdu with
  | none => rw [exec_ite_pos (x := 1) (by simp [legacyGuardSet, csem]) (by decide) exec_errRet]; simp [herr]
  | some p =>
    have hp0 := (hpdu p rfl).1
    have hvalE : evalE (mkEnv e rom glob) (mkFrame [p, field, value]) valE = some value := hvalE
    by_cases hbf : b ≤ field
    · rw [exec_ite_pos (x := 1) (by simp (disch := omega) [legacyGuardSet, csem, hp0, hbf]) (by decide) exec_errRet]
      simp [herr, hbf]
    · rw [exec_ite_neg (by simp (disch := omega) [legacyGuardSet, csem, hp0, hbf]) (exec_seq
        (call_setter e rom glob g tb hrom hvalid hglob x Fs hsb ht hN hNl (by rw [hxf]; rfl) (some p) hpdu hFs field value
          hf (by rw [hvb]; exact hv64) (by omega) (by decide) (by rw [hxf]; simp [csem, hvalE]) m [])
        (exec_ret rfl))]
      simp [hx, hbf, hok, Nat.mod_eq_of_lt hv, Ty.ofInt]

/-- `val` is the out-parameter (NULL = `none`). -/
theorem legacyGet_code (l : LegacyAcc) (F : Fn) (hbody : some F.body = expectedLegacyGetBody l)
    (x : Getter) (Fs : Fn) (hx : g.findGetter l.fwd = some x) (hxf : x.field = none)
    (hFs : findFn (Gen.Cir.prog e) l.fwd = some Fs) (hsb : some Fs.body = expectedGetterBody x)
    (ht : x.table = g.tableName) (hN : x.numFields < 256) (hNl : x.numFields ≤ g.table.length)
    (pdu val : Option Nat) (hpdu : ∀ p, pdu = some p → p ≠ 0 ∧ p + 1024 ≤ 18446744073709551616)
    (hval : ∀ v, val = some v → v ≠ 0)
    (field : Nat) (hf : field < 4294967296) (m : Mem)
    (hbound : ∀ b, l.bound = some b → b < 2147483648) :
    (exec (mkEnv e rom glob) 40 F.body (mkFrame [pdu.getD 0, field, val.getD 0]) ⟨m, []⟩).map (fun r => (r.1, r.2.2.mem))
      = (l.runGet g e m pdu val field).map (fun r => (.ret (Ty.ofInt .i32 r.2), r.1)) := by
  obtain ⟨b, tail, hb, hget, hgp, hgv, herr, hok, hF, htail⟩ := expectedLegacyGetBody_some hbody
  have hb31 := hbound b hb
  have hrej : l.rejects pdu val field = (pdu.isNone || val.isNone || decide (b ≤ field)) := by
    simp [LegacyAcc.rejects, hgp, hget, hgv, hb]
  unfold LegacyAcc.runGet
  rw [hF, hrej]
  -- a guard that holds, whatever follows it
  have rej : ∀ {L : Locals}, evalE (mkEnv e rom glob) L (legacyGuardGet b) = some 1 →
      (exec (mkEnv e rom glob) 40 (.ite (legacyGuardGet b) errRet tail) L ⟨m, []⟩).map (fun r => (r.1, r.2.2.mem))
        = some (.ret (Ty.ofInt .i32 (-22)), m) :=
    fun hg => by rw [exec_ite_pos hg (by decide) exec_errRet]; rfl
  cases pdu with
  | none => rw [rej (by simp [legacyGuardGet, csem])]; simp [herr]
  | some p =>
    have hp0 := (hpdu p rfl).1
    cases val with
    | none => rw [rej (by simp [legacyGuardGet, csem, hp0])]; simp [herr]
    | some v =>
      have hv0 := hval v rfl
      by_cases hbf : b ≤ field
      · rw [rej (by simp (disch := omega) [legacyGuardGet, csem, hp0, hv0, hbf])]
        simp [herr, hbf]
      · have hg : evalE (mkEnv e rom glob) (mkFrame [p, field, v]) (legacyGuardGet b) = some 0 := by
          simp (disch := omega) [legacyGuardGet, csem, hp0, hv0, hbf]
        -- the forwarded call, its result stored in slot `dst`
        have call := fun dst => call_getter e rom glob g tb hrom hvalid hglob x Fs hsb ht hN hNl (by rw [hxf]; rfl)
          (some p) hpdu hFs field hf (f := 37) (by decide) dst (L := mkFrame [p, field, v]) (args := [.var 0, .var 1]) (vs := [p, field])
          (by simp [csem]) rfl (fun _ => rfl) m []
        have hlt : x.run g.table e m (some p) field < 2 ^ 64 :=
          Nat.lt_of_le_of_lt (Nat.mod_le _ _) (getField_lt ..)
        show (exec (mkEnv e rom glob) 40 _ (mkFrame [p, field, v]) ⟨m, []⟩).map _ = _
        rcases htail with ⟨h64, rfl⟩ | ⟨h32, rfl⟩
        · rw [exec_ite_neg hg (exec_seq (exec_seq (call 3)
            (exec_storeVal (p := v) (v := x.run g.table e m (some p) field) (by simp [csem]) (by simp [csem]) hv0))
            (exec_ret rfl))]
          simp [hx, hbf, hok, h64, Nat.mod_eq_of_lt hlt, Ty.ofInt]
        · rw [exec_ite_neg hg (exec_seq (exec_seq (call 4) (exec_set (v := x.run g.table e m (some p) field) (by simp [csem])))
            (exec_seq (exec_storeVal (p := v) (v := x.run g.table e m (some p) field % 2 ^ 32) (by simp [csem])
              (by simp [csem]) hv0) (exec_ret rfl)))]
          simp [hx, hbf, hok, h32, Ty.ofInt]

/-- **Legacy initialisers of the "guard + forward" shape, as C text**: `-EINVAL` and no effect on a
    NULL PDU; otherwise exactly what the current initialiser does (whose C text is `init_code`'s
    subject) and 0. -/
theorem legacyInit_code (i : Init) (F : Fn) (hbody : some F.body = expectedLegacyInitBody i)
    (fn : String) (hsteps : i.steps = [.callInit fn])
    (i0 : Init) (F0 : Fn) (hi0 : g.inits.find? (fun j => j.fn == fn && !j.legacy) = some i0)
    (hF0 : findFn (Gen.Cir.prog e) fn = some F0) (hb0 : some F0.body = expectedInitBody g i0)
    (hok0 : ∀ st ∈ i0.steps, StepOK e g st) (hlen0 : i0.steps.length ≤ 6)
    (pdu : Option Nat) (hpdu : ∀ p, pdu = some p → p ≠ 0 ∧ p + 1024 ≤ 18446744073709551616) (m : Mem) :
    (exec (mkEnv e rom glob) 45 F.body (mkFrame [pdu.getD 0]) ⟨m, []⟩).map (fun r => (r.1, r.2.2.mem))
      = (i.run g e m pdu 0).map (fun r => (.ret (Ty.ofInt .i32 r.2), r.1)) := by
  unfold expectedLegacyInitBody at hbody
  rw [hsteps] at hbody
  simp only at hbody
  split at hbody
  · rename_i hc
    obtain ⟨hleg, herr, hok⟩ := hc
    rw [Option.some.inj hbody]
    cases pdu with
    | none =>
      rw [exec_ite_pos (x := 1) (by simp [csem]) (by decide) exec_errRet]
      simp [Init.run, hleg, herr]
    | some p =>
      obtain ⟨hp0, hpb⟩ := hpdu p rfl
      obtain ⟨m', l1, hr0, hx0⟩ := init_exec e rom glob g tb hrom hvalid hglob i0 F0 hb0 hok0 hlen0 (some p)
        (pdu_some hp0 hpb) m []
      -- the legacy initialiser's meaning is the current one's, the call flattened away
      have hrs : runSteps g e p 0 i0.steps m = some m' := by
        cases h : runSteps g e p 0 i0.steps m <;> simp [Init.run, flatten_of_ok e g i0.steps hok0, h] at hr0
        exact congrArg some hr0
      have hflat : g.flatten [InitStep.callInit fn] = some i0.steps := by
        simp only [GenFormat.flatten, hi0, List.append_nil, ite_eq_left_iff, List.all_eq_true]
        exact fun h => (h fun st hst => (hok0 st hst).noCallInit).elim
      rw [exec_ite_neg (by simp [csem, hp0]) (exec_seq
        (exec_call (vs := [p]) (by simp [csem]) (callFn_next hF0 hx0) (by decide)) (exec_ret rfl))]
      simp [Init.run, hsteps, hflat, hrs, hleg, hok, Ty.ofInt]
  · cases hbody
end

end O1722.Refine
