/-
  The C text of `Avtp_Can_GetCanPayloadLength` (two dedicated getters called by name) returns what the
  hand Model `canPayloadLength Spec.can` returns and leaves memory unchanged (C06 read-back) — for the
  headers whose `int` subtraction does not go negative (hypothesis `hnn`); the wrap-around case is not
  proved at code level.  Also `Avtp_Can_GetPayload` (C03).  CODE-DEPENDENT.
-/
import O1722.Refine.Accessors
import O1722.Gen.Data
import O1722.Props.Named
open O1722 O1722.C
namespace O1722.Refine
open Gen.Cir

/-- The records of the two dedicated getters, as regenerated (obligations `x…_is_regenerated`). -/
def xCanLen : Getter where
  fn := "Avtp_Can_GetAcfMsgLength"
  table := "Avtp_CanFieldDesc"
  numFields := 12
  field := some ("AVTP_CAN_FIELD_ACF_MSG_LENGTH", 1)
  fieldParamBits := 0
  fieldCastBits := 8
  retBits := 16
def xCanPad : Getter where
  fn := "Avtp_Can_GetPad"
  table := "Avtp_CanFieldDesc"
  numFields := 12
  field := some ("AVTP_CAN_FIELD_PAD", 2)
  fieldParamBits := 0
  fieldCastBits := 8
  retBits := 8

theorem xCanLen_is_regenerated : Gen.can.findGetter "Avtp_Can_GetAcfMsgLength" = some xCanLen := by decide
theorem xCanPad_is_regenerated : Gen.can.findGetter "Avtp_Can_GetPad" = some xCanPad := by decide

/-- `acf_msg_length - AVTP_CAN_HEADER_LEN - acf_pad_length` in `int`, converted to `uint8_t`, when no
    intermediate result is negative (every header a builder produced). -/
theorem ret_expr_eval (env : Env) (L : Locals) (L8 P8 : Nat) (h1 : L 1 = L8) (h3 : L 3 = P8) (hl : L8 < 256) (hp : P8 < 256)
    (hnn : 16 + P8 ≤ L8) :
    evalE env L (.cast .i32 .u8 (.bin .sub .i32 (.bin .sub .i32 (.cast .u8 .i32 (.var 1)) (.bin .mul .i32 (.lit 4) (.lit 4))) (.cast .u8 .i32 (.var 3))))
      = some ((L8 + 512 - 16 - P8) % 256) := by
  simp (disch := omega) [csem, h1, h3]
  omega

section
variable (e : Endian) (rom : Nat → Byte) (glob : String → Nat) (tb : Nat)
  (hrom : RomTable rom tb Gen.can.table) (hglob : glob "Avtp_CanFieldDesc" = tb)
include hrom hglob

/-- **C06 read-back on the C text — PARTIAL**: proved for headers whose length and pad fields make no
    `int` intermediate negative (`16 + pad ≤ (4·acf_msg_length) mod 256`: so after a builder call with
    a payload of at most 236 octets; from 237 octets on `4·acf_msg_length` wraps in `uint8_t`).
    Missing: the wrap-around case (a garbage header): the C semantics assigns it a defined result too
    (the `int` goes negative and is converted modulo 256, as the Model says), but a proof over 2^32-sized
    two's-complement constants is too slow for the kernel to check; that case stays with the Model +
    correspondence runs (`can_len` ops). -/
theorem C06_code_readback_partial (p : Nat) (hp0 : p ≠ 0) (hpb : p + 1024 ≤ 18446744073709551616) (m : Mem)
    (hnn : 16 + getNamed Spec.can m p "PAD" % 2 ^ 8 ≤ ((getNamed Spec.can m p "ACF_MSG_LENGTH" % 2 ^ 16) * 4) % 256) :
    (callFn (mkEnv e rom glob) 40 "Avtp_Can_GetCanPayloadLength" [p] ⟨m, []⟩).map (fun r => (r.1, r.2.mem))
      = some (canPayloadLength Spec.can m p, m) := by
  have hvalid : ∀ d ∈ Gen.can.table, d.Valid := by decide
  have hl : xCanLen.run Gen.can.table e m (some p) 0 = getNamed Spec.can m p "ACF_MSG_LENGTH" % 2 ^ 16 :=
    congrArg (· % 2 ^ 16)
      (getField_eq_getNamed Spec.can Gen.can.table 12 1 "ACF_MSG_LENGTH" _ _ rfl rfl (by decide) (by decide) e m p)
  have hp : xCanPad.run Gen.can.table e m (some p) 0 = getNamed Spec.can m p "PAD" % 2 ^ 8 :=
    congrArg (· % 2 ^ 8)
      (getField_eq_getNamed Spec.can Gen.can.table 12 2 "PAD" _ _ rfl rfl (by decide) (by decide) e m p)
  have hl8 : ((getNamed Spec.can m p "ACF_MSG_LENGTH" % 2 ^ 16) * 4) % 256 < 256 := Nat.mod_lt _ (by decide)
  have hp8 : getNamed Spec.can m p "PAD" % 2 ^ 8 < 256 := Nat.mod_lt _ (by decide)
  have get := call_getter e rom glob Gen.can tb hrom hvalid hglob
  rw [show callFn (mkEnv e rom glob) 40 "Avtp_Can_GetCanPayloadLength" [p] ⟨m, []⟩ = _ from
    callFn_ret (find_Avtp_Can_GetCanPayloadLength e) (exec_seq
      (exec_seq
        (get xCanLen Avtp_Can_GetAcfMsgLength rfl rfl (by decide) (by decide) rfl
          (some p) (pdu_some hp0 hpb) (find_Avtp_Can_GetAcfMsgLength e) 0 (by decide) (by decide) 2 (vs := [p]) (by simp [csem]) rfl nofun m [])
        (exec_set (v := ((getNamed Spec.can m p "ACF_MSG_LENGTH" % 2 ^ 16) * 4) % 256)
          (by have := Nat.mod_lt (getNamed Spec.can m p "ACF_MSG_LENGTH") (show 0 < 2 ^ 16 by decide)
              simp (disch := omega) [csem, hl])))
      (exec_seq
        (exec_seq
          (get xCanPad Avtp_Can_GetPad rfl rfl (by decide) (by decide) rfl
            (some p) (pdu_some hp0 hpb) (find_Avtp_Can_GetPad e) 0 (by decide) (by decide) 4 (vs := [p]) (by simp [csem]) rfl nofun m _)
          (exec_set (v := getNamed Spec.can m p "PAD" % 2 ^ 8) (by simp [csem, hp])))
        (exec_ret (ret_expr_eval _ _ _ _ (by simp [csem]) (by simp [csem]) hl8 hp8 hnn))))]
  simp only [canPayloadLength, Option.map, show Spec.can.headerLen = 16 from rfl]
end

/-- **C03 (payload accessor) on the C text**: `Avtp_Can_GetPayload(pdu)` returns the address immediately
    after the published header length, touches no memory. -/
theorem C03_code_payload (e : Endian) (rom : Nat → Byte) (glob : String → Nat) (p : Nat)
    (hp : p + 16 < 18446744073709551616) (st : St) :
    callFn (mkEnv e rom glob) 3 "Avtp_Can_GetPayload" [p] st = some (p + Spec.can.headerLen, st) :=
  callFn_ret (find_Avtp_Can_GetPayload e) (exec_ret (by
    simp (disch := omega) [csem, show Spec.can.headerLen = 16 from rfl]))

end O1722.Refine
