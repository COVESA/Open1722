/-
  The C text of the ACF-CAN builders `Avtp_Can_SetPayload`, `Avtp_Can_Finalize` and
  `Avtp_Can_CreateAcfMessage` leaves exactly the memory the hand Model `canCreate Spec.can` describes
  (C06), for every identifier, variant, payload length and content, PDU address, prior memory and host
  byte order.  The facts linking rows of the C table `Avtp_CanFieldDesc` to the Spec's field names are
  hypotheses here; Refine/PropsCan.lean proves them of the regenerated table.  CODE-DEPENDENT.
-/
import O1722.Refine.Block
import O1722.Model.Can
open O1722 O1722.C
namespace O1722.Refine
open Gen.Cir

/-! ### what `Can.c` and `CanBrief.c` have in common

  The two files are one text up to the header length (`q` quadlets), the name of the format's
  writer (`set`) and the identifier of the CAN_IDENTIFIER field (`idx`).  The shared statements are
  written once, as functions of these; that they are the statements of the C functions is `rfl`
  where a function's body is run, so a change of the C text still breaks the proof. -/

/-- `if (payload_length % AVTP_QUADLET_SIZE) { memset(pdu->payload + payload_length, 0, padSize); avtpCanLength += padSize; }`
    for a header of `H` octets. -/
def finalizePad (H : Nat) : Stmt :=
  .ite (.bin .rem .i32 (.cast .u16 .i32 (.var 1)) (.lit 4))
    (.seq (.fill (.bin .add .u64 (.bin .add .u64 (.var 0) (.lit H)) (.cast .i32 .u64 (.cast .u16 .i32 (.var 1))))
            (.cast .i32 .u8 (.lit 0)) (.cast .u8 .u64 (.var 2)))
          (.set 3 (.bin .add .u32 (.var 3) (.cast .u8 .u32 (.var 2))))) .skip

/-- `X_Finalize(pdu, payload_length)` for a header of `q` quadlets: slot 2 is `padSize`, slot 3
    `avtpCanLength`. -/
def finalizeStmts (q : Nat) (set : String) : List Stmt :=
  [.set 3 (.cast .i32 .u32 (.bin .add .i32 (.bin .mul .i32 (.lit q) (.lit 4)) (.cast .u16 .i32 (.var 1)))),
   .set 2 (.cast .i32 .u8 (.bin .sub .i32 (.lit 4) (.bin .rem .i32 (.cast .u16 .i32 (.var 1)) (.lit 4)))),
   finalizePad (q * 4),
   .call none set [.var 0, .cast .i32 .u32 (.lit 1), .bin .div .u64 (.cast .u32 .u64 (.var 3)) (.cast .i32 .u64 (.lit 4))],
   .call none set [.var 0, .cast .i32 .u32 (.lit 2), .cast .u8 .u64 (.var 2)]]

/-- What the builders do between copying the payload and calling `X_Finalize`: slot 1 is `frame_id`,
    slot 4 `can_variant`, slot 5 `eff`. -/
def createStmts (idx : Nat) (set : String) : List Stmt :=
  [.set 5 (.cond (.bin .gt .u32 (.var 1) (.cast .i32 .u32 (.lit 2047))) (.lit 1) (.lit 0)),
   .call none set [.var 0, .cast .i32 .u32 (.lit 5), .cast .i32 .u64 (.var 5)],
   .call none set [.var 0, .cast .i32 .u32 (.lit idx), .cast .u32 .u64 (.var 1)],
   .call none set [.var 0, .cast .i32 .u32 (.lit 7), .cast .u8 .u64 (.cast .u32 .u8 (.var 4))]]

section
variable {e : Endian} {rom : Nat → Byte} {glob : String → Nat} {tbl : List Desc} {N : Nat} {set : String}

/- `q ≤ 4`: the header is at most 4 quadlets (16 octets for CAN, 8 for CAN-brief), so header + payload
   + pad stays below 2^16 + 20 and `p + 70000` keeps every address the builder forms below 2^64
   (the payload length is a `uint16_t`). -/
theorem finalize_steps (w : Writer e rom glob tbl N set) (sp : Spec.FormatSpec) (q : Nat) (hq : q ≤ 4)
    (hlen : ∀ m p v, setField e tbl N m (some p) 1 v = setNamed sp m p "ACF_MSG_LENGTH" v)
    (hpad : ∀ m p v, setField e tbl N m (some p) 2 v = setNamed sp m p "PAD" v)
    (hH : sp.headerLen = q * 4)
    (p len : Nat) (hp0 : p ≠ 0) (hpb : p + 70000 ≤ 18446744073709551616) (hl : len < 65536) (m : Mem)
    (l0 : List Access) {f : Nat} (hf : 30 ≤ f) :
    ∃ L l1, L 3 = (canFinalize sp m p len).2 ∧
      Steps (mkEnv e rom glob) f (finalizeStmts q set) (mkFrame [p, len]) ⟨m, l0⟩
        L ⟨(canFinalize sp m p len).1, l1⟩ := by
  obtain ⟨f, rfl⟩ : ∃ f', f = f' + 30 := ⟨f - 30, by omega⟩
  have hr : len % 4 < 4 := Nat.mod_lt _ (by decide)
  let pad := 4 - len % 4
  let L0 := upd (upd (mkFrame [p, len]) 3 (q * 4 + len)) 2 pad
  have hc : evalE (mkEnv e rom glob) L0 (.bin .rem .i32 (.cast .u16 .i32 (.var 1)) (.lit 4)) = some (len % 4) := by
    simp (disch := omega) [csem, L0]
  -- only the `memset` statement depends on whether `len` is a multiple of 4
  obtain ⟨L, m2, l2, total, h2, hL0, hL2, hL3, ht, hm⟩ : ∃ L m2 l2 total,
      exec (mkEnv e rom glob) (f + 30) (finalizePad (q * 4)) L0 ⟨m, l0⟩ = some (.next, L, ⟨m2, l2⟩) ∧
      L 0 = p ∧ L 2 = pad ∧ L 3 = total ∧ total < 70000 ∧
      canFinalize sp m p len = (setNamed sp (setNamed sp m2 p "ACF_MSG_LENGTH" (total / 4)) p "PAD" pad, total) := by
    by_cases hz : len % 4 = 0
    · exact ⟨L0, m, l0, q * 4 + len, exec_ite_neg (hc.trans (congrArg some hz)) exec_skip, rfl, rfl, rfl, by omega,
        by simp (disch := omega) [canFinalize, hH, hz, pad, Nat.mod_eq_of_lt]⟩
    · exact ⟨_, zeroFill m (p + q * 4 + len) pad, _, q * 4 + len + pad,
        exec_ite_pos hc hz (exec_seq
          (exec_zeroFill (pd := p + q * 4 + len) (k := pad) (by simp (disch := omega) [csem, L0]) (by simp [csem])
            (by simp (disch := omega) [csem, L0, pad]) (by omega))
          (exec_set (v := q * 4 + len + pad) (by simp (disch := omega) [csem, L0, pad]))),
        rfl, rfl, rfl, by omega, by simp (disch := omega) [canFinalize, hH, hz, pad, Nat.mod_eq_of_lt]⟩
  rw [hm, ← hpad, ← hlen]
  exact ⟨L, _, hL3,
    .cons (exec_set (v := q * 4 + len) (by simp (disch := omega) [csem]))
    (.cons (exec_set (v := pad) (by simp (disch := omega) [csem, pad]))
    (.cons h2
    (.cons (w.call (x := total / 4) (by omega) hL0 hp0 (by omega) (by decide)
      (by simp (disch := omega) [csem, hL3]) (by omega))
    (.cons (w.call (x := pad) (by omega) hL0 hp0 (by omega) (by decide)
      (by simp (disch := omega) [csem, hL2]) (by omega)) .nil))))⟩

theorem create_steps (w : Writer e rom glob tbl N set) (sp : Spec.FormatSpec) (idx : Nat) (hidx : idx < 2147483648)
    (heff : ∀ m p v, setField e tbl N m (some p) 5 v = setNamed sp m p "EFF" v)
    (hfdf : ∀ m p v, setField e tbl N m (some p) 7 v = setNamed sp m p "FDF" v)
    (hid : ∀ m p v, setField e tbl N m (some p) idx v = setNamed sp m p "CAN_IDENTIFIER" v)
    {p frameId variant : Nat} (hp0 : p ≠ 0) (hpb : p + 1024 ≤ 18446744073709551616)
    (hf : frameId < 4294967296)
    {L : Locals} (h0 : L 0 = p) (h1 : L 1 = frameId) (h4 : L 4 = variant) {f : Nat} (hfu : 30 ≤ f)
    (m : Mem) (l0 : List Access) :
    ∃ l1, Steps (mkEnv e rom glob) f (createStmts idx set) L ⟨m, l0⟩ (upd L 5 (if frameId > 0x7ff then 1 else 0))
      ⟨setNamed sp (setNamed sp (setNamed sp m p "EFF" (if frameId > 0x7ff then 1 else 0)) p "CAN_IDENTIFIER" frameId)
        p "FDF" (variant % 256), l1⟩ := by
  obtain ⟨f, rfl⟩ : ∃ f', f = f' + 30 := ⟨f - 30, by omega⟩
  have heffv : (if 2047 < frameId then 1 else 0 : Nat) < 2 := by split <;> omega
  have h0' : upd L 5 (if 2047 < frameId then 1 else 0) 0 = p := h0
  rw [← hfdf, ← hid, ← heff]
  exact ⟨_,
    .cons (exec_set (v := if 2047 < frameId then 1 else 0)
      (by by_cases hgt : 2047 < frameId <;> simp (disch := omega) [csem, h1, hgt]))
    (.cons (w.call (p := p) (x := if 2047 < frameId then 1 else 0) (by omega) h0' hp0 hpb (by decide)
      (by simp (disch := omega) [csem]) (by omega))
    (.cons (w.call (p := p) (x := frameId) (by omega) h0' hp0 hpb hidx
      (by simp (disch := omega) [csem, h1]) (by omega))
    (.cons (w.call (p := p) (x := variant % 256) (by omega) h0' hp0 hpb (by decide)
      (by simp (disch := omega) [csem, h4]) (by omega)) .nil)))⟩
end

section
variable (e : Endian) (rom : Nat → Byte) (glob : String → Nat)

theorem Avtp_Can_SetPayload_call (g : Nat) (hg : 0 < g) (p src n : Nat) (hpb : p + 70000 ≤ 18446744073709551616)
    (hn : n < 65536) (hsrc : n = 0 ∨ src ≠ 0) (hdis : n = 0 ∨ p + 16 + n ≤ src ∨ src + n ≤ p + 16)
    (m : Mem) (l0 : List Access) :
    callFn (mkEnv e rom glob) g "Avtp_Can_SetPayload" [p, src, n] ⟨m, l0⟩
      = some (0, ⟨m.write (p + 16) (m.read src n), l0 ++ [⟨src, n, 1, false⟩, ⟨p + 16, n, 1, true⟩]⟩) :=
  callFn_le _ hg (callFn_next (f := 1) (find_Avtp_Can_SetPayload e) (exec_copy (pd := p + 16) (ps := src) (k := n)
    (by simp (disch := omega) [csem]) (by simp [csem]) (by simp (disch := omega) [csem]) (by omega)
    (by simpa [disjointRanges] using hdis)))
end

section
variable (e : Endian) (rom : Nat → Byte) (glob : String → Nat) (tbl : List Desc) (tb : Nat)
  (hrom : RomTable rom tb tbl) (hvalid : ∀ d ∈ tbl, d.Valid)
  (hglob : glob "Avtp_CanFieldDesc" = tb) (hNl : 12 ≤ tbl.length)
  (hlen : ∀ m p v, setField e tbl 12 m (some p) 1 v = setNamed Spec.can m p "ACF_MSG_LENGTH" v)
  (hpad : ∀ m p v, setField e tbl 12 m (some p) 2 v = setNamed Spec.can m p "PAD" v)
include hrom hvalid hglob hNl

theorem can_writer : Writer e rom glob tbl 12 "Avtp_Can_SetField" :=
  ⟨hvalid, by decide, hNl, "Avtp_CanFieldDesc", _, hglob ▸ hrom, find_Avtp_Can_SetField e, rfl⟩

include hlen hpad

theorem Avtp_Can_Finalize_call (p len : Nat) (hp0 : p ≠ 0) (hpb : p + 70000 ≤ 18446744073709551616)
    (hl : len < 65536) (m : Mem) (l0 : List Access) :
    ∃ l1, callFn (mkEnv e rom glob) 40 "Avtp_Can_Finalize" [p, len] ⟨m, l0⟩
      = some (0, ⟨(canFinalize Spec.can m p len).1, l1⟩) := by
  obtain ⟨L, l1, -, hs⟩ := finalize_steps (can_writer e rom glob tbl tb hrom hvalid hglob hNl) Spec.can 4 (by decide)
    hlen hpad rfl p len hp0 hpb hl m l0 (f := 35) (by decide)
  exact ⟨l1, callFn_next (find_Avtp_Can_Finalize e) (exec_seqOf (l := finalizeStmts 4 "Avtp_Can_SetField") rfl hs)⟩

theorem Avtp_Can_Finalize_mem (p len : Nat) (hp0 : p ≠ 0) (hpb : p + 70000 ≤ 18446744073709551616)
    (hl : len < 65536) (m : Mem) (l0 : List Access) :
    (callFn (mkEnv e rom glob) 40 "Avtp_Can_Finalize" [p, len] ⟨m, l0⟩).map (fun r => (r.1, r.2.mem))
      = some (0, (canFinalize Spec.can m p len).1) := by
  obtain ⟨l1, h⟩ := Avtp_Can_Finalize_call e rom glob tbl tb hrom hvalid hglob hNl hlen hpad p len hp0 hpb hl m l0
  rw [h]; rfl

variable (heff : ∀ m p v, setField e tbl 12 m (some p) 5 v = setNamed Spec.can m p "EFF" v)
  (hfdf : ∀ m p v, setField e tbl 12 m (some p) 7 v = setNamed Spec.can m p "FDF" v)
  (hid : ∀ m p v, setField e tbl 12 m (some p) 11 v = setNamed Spec.can m p "CAN_IDENTIFIER" v)
include heff hfdf hid

/-- The payload is the `n` bytes at `src`; `hdis`: they do not overlap `pdu->payload`, else the `memcpy` is
    undefined. -/
theorem Avtp_Can_CreateAcfMessage_refines (p frameId src n variant : Nat) (hp0 : p ≠ 0)
    (hpb : p + 70000 ≤ 18446744073709551616) (hf : frameId < 4294967296) (hvar : variant < 4294967296)
    (hn : n < 65536) (hsrc : n = 0 ∨ src ≠ 0) (hdis : n = 0 ∨ p + 16 + n ≤ src ∨ src + n ≤ p + 16) (m : Mem) :
    (callFn (mkEnv e rom glob) 60 "Avtp_Can_CreateAcfMessage" [p, frameId, src, n, variant] ⟨m, []⟩).map
        (fun r => (r.1, r.2.mem))
      = some (0, (canCreate Spec.can m p frameId (m.read src n) variant).1) := by
  obtain ⟨l4, hmid⟩ := create_steps (can_writer e rom glob tbl tb hrom hvalid hglob hNl) Spec.can 11 (by decide)
    heff hfdf hid hp0 (by omega) hf (variant := variant) (L := mkFrame [p, frameId, src, n, variant]) rfl rfl rfl (f := 55) (by decide)
    (m.write (p + 16) (m.read src n)) _
  obtain ⟨lF, hF⟩ := Avtp_Can_Finalize_call e rom glob tbl tb hrom hvalid hglob hNl hlen hpad p n hp0 hpb hn _ l4
  rw [show callFn (mkEnv e rom glob) 60 "Avtp_Can_CreateAcfMessage" [p, frameId, src, n, variant] ⟨m, []⟩ = _ from
    callFn_next (find_Avtp_Can_CreateAcfMessage e) (exec_seqOf_concat
    (l := Avtp_Can_CreateAcfMessage_s0 :: createStmts 11 "Avtp_Can_SetField") rfl
    (.cons (exec_call (by simp [csem]) (Avtp_Can_SetPayload_call e rom glob 54 (by decide) p src n hpb hn hsrc hdis m [])
      (by decide)) hmid)
    (exec_call (by simp [csem]) hF (by decide)))]
  simp only [canCreate, canSetPayload, read_length, show Spec.can.headerLen = 16 from rfl, Option.map]
end

end O1722.Refine
