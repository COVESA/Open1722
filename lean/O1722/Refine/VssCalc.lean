/-
  The C text of `Avtp_Vss_CalcVssPathLength` (a dedicated getter called by name, the file-local helper
  `Vss_ReadBe16` = `memcpy` into a `uint16_t` + `Avtp_BeToCpu16`, a two-way branch on the address mode)
  returns what the hand Model `vssCalcPathLength` returns — the on-wire size of the VSS path that C08
  speaks about — and leaves memory unchanged.  CODE-DEPENDENT.
-/
import O1722.Refine.Accessors
import O1722.Gen.Data
import O1722.Model.Vss
import O1722.Props.Named
open O1722 O1722.C
namespace O1722.Refine
open Gen.Cir

/-- `Avtp_BeToCpu16(x)`: `return Avtp_Bswap16(x)` on a little-endian host, `return x` on a big-endian one. -/
theorem call_BeToCpu16 (e : Endian) (rom glob) (f dst : Nat) (a : Expr) (L : Locals) (s : St) (x : Nat)
    (ha : evalE (mkEnv e rom glob) L a = some x) (hx : x < 65536) :
    exec (mkEnv e rom glob) (f + 4) (.call (some dst) "Avtp_BeToCpu16" [a]) L s
      = some (.next, upd L dst (beCpu16 e x), s) := by
  have hargs : evalArgs (mkEnv e rom glob) L [a] = some [x] := by simp [evalArgs, ha]
  cases e
  · have hswap : callFn (mkEnv .little rom glob) 1 "Avtp_Bswap16" [x] s = some (bswap16 x, s) :=
      callFn_ret (find_Avtp_Bswap16 .little) (exec_ret (by simp (disch := omega) [csem, bswap16]))
    exact exec_call (n := 3) hargs (callFn_ret (find_Avtp_BeToCpu16 .little)
      (exec_seq (exec_call rfl hswap (by decide)) (exec_ret rfl))) (by omega)
  · exact exec_call (n := 1) hargs (callFn_ret (find_Avtp_BeToCpu16 .big) (exec_ret rfl)) (by omega)

theorem call_ReadBe16 (e : Endian) (rom glob) {g : Nat} (dst : Nat) (hg : 7 < g) {a : Expr} {L : Locals} (m : Mem)
    (l0 : List Access) {p : Nat} (ha : evalE (mkEnv e rom glob) L a = some p) (hp0 : p ≠ 0) :
    exec (mkEnv e rom glob) g (.call (some dst) "Vss_ReadBe16" [a]) L ⟨m, l0⟩
      = some (.next, upd L dst (rdBe e 2 m p), ⟨m, l0 ++ [⟨p, 2, 1, false⟩]⟩) :=
  exec_call (n := 7) (vs := [p]) (by simp [csem, ha]) (callFn_ret (find_Vss_ReadBe16 e)
    (exec_seq (exec_loadObj (p := p) rfl hp0)
      (exec_seq (call_BeToCpu16 e rom glob 1 2 (.var 1) _ _ (load e 2 m p) (by simp [csem]) (load_lt e 2 m p))
        (exec_ret (by simp [csem, rdBe]))))) hg

def xVssMode : Getter where
  fn := "Avtp_Vss_GetAddrMode"
  table := "Avtp_VssFieldDesc"
  numFields := 8
  field := some ("AVTP_VSS_FIELD_ADDR_MODE", 4)
  fieldParamBits := 0
  fieldCastBits := 8
  retBits := 32

theorem xVssMode_is_regenerated : Gen.vss.findGetter "Avtp_Vss_GetAddrMode" = some xVssMode := by decide

section
variable (e : Endian) (rom : Nat → Byte) (glob : String → Nat) (tb : Nat)
  (hrom : RomTable rom tb Gen.vss.table) (hglob : glob "Avtp_VssFieldDesc" = tb)
include hrom hglob

/-- **C08 (reported on-wire path size) on the C text.** -/
theorem C08_code_calc (p : Nat) (hp0 : p ≠ 0) (hpb : p + 1024 ≤ 18446744073709551616) (m : Mem) :
    (callFn (mkEnv e rom glob) 40 "Avtp_Vss_CalcVssPathLength" [p] ⟨m, []⟩).map (fun r => (r.1, r.2.mem))
      = some (vssCalcPathLength e m p, m) := by
  have hvalid : ∀ d ∈ Gen.vss.table, d.Valid := by decide
  let mode := xVssMode.run Gen.vss.table e m (some p) 0
  have hmode : mode = vssAddrMode m p := by
    have hlt : getNamed Spec.vss m p "ADDR_MODE" < 2 ^ 2 := specGet_lt ..
    exact (congrArg (· % 2 ^ 32)
      (getField_eq_getNamed Spec.vss Gen.vss.table 8 4 "ADDR_MODE" _ _ rfl rfl (by decide) (by decide) e m p)).trans
      (Nat.mod_eq_of_lt (Nat.lt_trans hlt (by decide)))
  have hlt : rdBe e 2 m (p + 12) < 65536 := by
    have : load e 2 m (p + 12) < 65536 := load_lt e 2 m (p + 12)
    cases e
    · exact Nat.mod_lt _ (by decide)
    · exact this
  -- the frame when the branch on the address mode is reached, and the branch itself
  let L := upd (upd (upd (upd (mkFrame [p]) 1 (p + 12)) 3 mode) 2 mode) 4 0
  obtain ⟨L', l', hbr, h4⟩ : ∃ L' l', exec (mkEnv e rom glob) 36 Avtp_Vss_CalcVssPathLength_s3 L
        ⟨m, xVssMode.log Gen.vss.table e m (some p) 0⟩ = some (.next, L', ⟨m, l'⟩)
      ∧ L' 4 = if mode = 1 then 4 else if mode = 0 then rdBe e 2 m (p + Spec.vssFixedHeader) + 2 else 0 := by
    have hc1 : evalE (mkEnv e rom glob) L (.bin .eq .u32 (.var 2) (.cast .i32 .u32 (.lit 1))) = some (b2n (decide (mode = 1))) := by
      simp (disch := omega) [csem, L]
    have hc0 : evalE (mkEnv e rom glob) L (.bin .eq .u32 (.var 2) (.cast .i32 .u32 (.lit 0))) = some (b2n (decide (mode = 0))) := by
      simp (disch := omega) [csem, L]
    by_cases h1 : mode = 1
    · exact ⟨_, _, exec_ite_pos hc1 (by simp [h1]) (exec_set (v := 4) (by simp (disch := omega) [csem])),
        by simp [upd, h1]⟩
    · by_cases h0 : mode = 0
      · exact ⟨_, _, exec_ite_neg (hc1.trans (by simp [h1])) (exec_ite_pos hc0 (by simp [h0]) (exec_seq
          (call_ReadBe16 e rom glob 5 (by decide) m _ (p := p + 12) (by simp [csem, L]) (by omega))
          (exec_set (v := rdBe e 2 m (p + 12) + 2) (by simp (disch := omega) [csem])))),
          by simp [upd, h0, Spec.vssFixedHeader]⟩
      · exact ⟨_, _, exec_ite_neg (hc1.trans (by simp [h1])) (exec_ite_neg (hc0.trans (by simp [h0])) exec_skip),
          by simp [L, h1, h0]⟩
  rw [show callFn (mkEnv e rom glob) 40 "Avtp_Vss_CalcVssPathLength" [p] ⟨m, []⟩ = _ from
    callFn_ret (find_Avtp_Vss_CalcVssPathLength e) (exec_seq
      (exec_set (v := p + 12) (by simp (disch := omega) [csem]))
      (exec_seq
        (exec_seq
          (call_getter e rom glob Gen.vss tb hrom hvalid hglob xVssMode Avtp_Vss_GetAddrMode rfl rfl (by decide) (by decide) rfl
            (some p) (pdu_some hp0 hpb) (find_Avtp_Vss_GetAddrMode e) 0 (by decide) (by decide) 3 (vs := [p])
            (by simp [csem]) rfl nofun m [])
          (exec_set (v := mode) (by simp [csem, mode])))
        (exec_seq (exec_set (v := 0) (by simp (disch := omega) [csem]))
          (exec_seq hbr (exec_ret (v := L' 4) rfl)))))]
  simp only [h4, vssCalcPathLength, ← hmode, Option.map]
end

end O1722.Refine
