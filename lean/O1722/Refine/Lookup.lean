/-
  Resolving a function name in the serialised program `Gen.Cir.prog e` (what `callFn` does first).
  What costs is comparing `String` names: to compare two strings the kernel first turns each into its
  UTF-8 octets (once per name and declaration) and then walks the octets, at every comparison.  So names
  are compared as NUMBERS (`key`, injective), the look-ups the refinement proofs use are evaluated by the
  kernel alone (`rfl` would make the elaborator compare a second time), for both hosts at once, and all in
  ONE declaration.  The regenerated Gen/Find.lean does the same for the functions that the records of
  Gen/Data.lean name.  CODE-DEPENDENT.
-/
import O1722.Gen.Cir
import O1722.CSem.Eval
open O1722 O1722.C
namespace O1722.Refine
open Gen.Cir

deriving instance DecidableEq for Fn

/-- A number that determines the name: its UTF-8 octets as digits 1..256 to the base 257.  The
    kernel compares two numbers in one step. -/
def key (s : String) : Nat := s.toByteArray.data.toList.foldr (fun b n => n * 257 + (b.toNat + 1)) 0

theorem digits_inj : ∀ (l₁ l₂ : List UInt8),
    l₁.foldr (fun b n => n * 257 + (b.toNat + 1)) 0 = l₂.foldr (fun b n => n * 257 + (b.toNat + 1)) 0 → l₁ = l₂
  | [], [], _ => rfl
  | [], _ :: _, h | _ :: _, [], h => by simp only [List.foldr] at h; omega
  | a :: l₁, b :: l₂, h => by
    simp only [List.foldr] at h
    have ha := a.toNat_lt; have hb := b.toNat_lt
    rw [digits_inj l₁ l₂ (by omega), UInt8.toNat_inj.mp (by omega : a.toNat = b.toNat)]

theorem key_beq (a b : String) : (key a == key b) = (a == b) := by
  rw [Bool.eq_iff_iff, beq_iff_eq, beq_iff_eq]
  exact ⟨fun h => String.toByteArray_inj.mp (ByteArray.ext (Array.ext' (digits_inj _ _ h))), congrArg key⟩

def findK (fns : List Fn) (n : String) : Option Fn := fns.find? fun F => key F.name == key n

theorem findK_eq (fns : List Fn) (n : String) : findK fns n = findFn fns n := by
  simp only [findK, findFn, key_beq]

/-- `F` is what its own name finds in the library, and Byteorder.h, which `prog e` puts in front
    for host `e`, defines nothing of that name. -/
def inLib (F : Fn) : Bool :=
  findK lib F.name == some F && findK (byteorder .little) F.name == none
    && findK (byteorder .big) F.name == none

theorem find_of_inLib {F : Fn} (h : inLib F = true) (e : Endian) : findFn (prog e) F.name = some F := by
  simp only [inLib, findK_eq, Bool.and_eq_true, beq_iff_eq] at h
  have hb : findFn (byteorder e) F.name = none := match e with | .little => h.1.2 | .big => h.2
  unfold findFn at *
  rw [prog, List.find?_append, hb, h.1.1]
  rfl

theorem find_of_mem {fs : List Fn} (h : fs.all inLib = true) {F : Fn} (hF : F ∈ fs) (e : Endian) :
    findFn (prog e) F.name = some F :=
  find_of_inLib (List.all_eq_true.mp h F hF) e

/-- The library functions that the hand-written refinement proofs call by name. -/
def called : List Fn :=
  [Avtp_GetField, Avtp_SetField, Avtp_Vss_Pad, Avtp_Vss_SetField, Avtp_Vss_CalcVssPathLength,
   Avtp_Vss_GetAddrMode, Vss_ReadBe16, Avtp_Can_CreateAcfMessage, Avtp_Can_SetPayload,
   Avtp_Can_Finalize, Avtp_Can_SetField, Avtp_Can_GetCanPayloadLength, Avtp_Can_GetAcfMsgLength,
   Avtp_Can_GetPad, Avtp_Can_GetPayload, Avtp_CanBrief_SetPayload, Avtp_CanBrief_Finalize,
   Avtp_CanBrief_SetField]

theorem called_inLib : called.all inLib = true := by decide +kernel

theorem find_Avtp_GetField (e : Endian) : findFn (prog e) "Avtp_GetField" = some Avtp_GetField :=
  find_of_mem (F := Avtp_GetField) called_inLib (by simp [called]) e
theorem find_Avtp_SetField (e : Endian) : findFn (prog e) "Avtp_SetField" = some Avtp_SetField :=
  find_of_mem (F := Avtp_SetField) called_inLib (by simp [called]) e
theorem find_Avtp_Vss_Pad (e : Endian) : findFn (prog e) "Avtp_Vss_Pad" = some Avtp_Vss_Pad :=
  find_of_mem (F := Avtp_Vss_Pad) called_inLib (by simp [called]) e
theorem find_Avtp_Vss_SetField (e : Endian) : findFn (prog e) "Avtp_Vss_SetField" = some Avtp_Vss_SetField :=
  find_of_mem (F := Avtp_Vss_SetField) called_inLib (by simp [called]) e
theorem find_Avtp_Vss_CalcVssPathLength (e : Endian) : findFn (prog e) "Avtp_Vss_CalcVssPathLength" = some Avtp_Vss_CalcVssPathLength :=
  find_of_mem (F := Avtp_Vss_CalcVssPathLength) called_inLib (by simp [called]) e
theorem find_Avtp_Vss_GetAddrMode (e : Endian) : findFn (prog e) "Avtp_Vss_GetAddrMode" = some Avtp_Vss_GetAddrMode :=
  find_of_mem (F := Avtp_Vss_GetAddrMode) called_inLib (by simp [called]) e
theorem find_Vss_ReadBe16 (e : Endian) : findFn (prog e) "Vss_ReadBe16" = some Vss_ReadBe16 :=
  find_of_mem (F := Vss_ReadBe16) called_inLib (by simp [called]) e
theorem find_Avtp_Can_CreateAcfMessage (e : Endian) : findFn (prog e) "Avtp_Can_CreateAcfMessage" = some Avtp_Can_CreateAcfMessage :=
  find_of_mem (F := Avtp_Can_CreateAcfMessage) called_inLib (by simp [called]) e
theorem find_Avtp_Can_SetPayload (e : Endian) : findFn (prog e) "Avtp_Can_SetPayload" = some Avtp_Can_SetPayload :=
  find_of_mem (F := Avtp_Can_SetPayload) called_inLib (by simp [called]) e
theorem find_Avtp_Can_Finalize (e : Endian) : findFn (prog e) "Avtp_Can_Finalize" = some Avtp_Can_Finalize :=
  find_of_mem (F := Avtp_Can_Finalize) called_inLib (by simp [called]) e
theorem find_Avtp_Can_SetField (e : Endian) : findFn (prog e) "Avtp_Can_SetField" = some Avtp_Can_SetField :=
  find_of_mem (F := Avtp_Can_SetField) called_inLib (by simp [called]) e
theorem find_Avtp_Can_GetCanPayloadLength (e : Endian) : findFn (prog e) "Avtp_Can_GetCanPayloadLength" = some Avtp_Can_GetCanPayloadLength :=
  find_of_mem (F := Avtp_Can_GetCanPayloadLength) called_inLib (by simp [called]) e
theorem find_Avtp_Can_GetAcfMsgLength (e : Endian) : findFn (prog e) "Avtp_Can_GetAcfMsgLength" = some Avtp_Can_GetAcfMsgLength :=
  find_of_mem (F := Avtp_Can_GetAcfMsgLength) called_inLib (by simp [called]) e
theorem find_Avtp_Can_GetPad (e : Endian) : findFn (prog e) "Avtp_Can_GetPad" = some Avtp_Can_GetPad :=
  find_of_mem (F := Avtp_Can_GetPad) called_inLib (by simp [called]) e
theorem find_Avtp_Can_GetPayload (e : Endian) : findFn (prog e) "Avtp_Can_GetPayload" = some Avtp_Can_GetPayload :=
  find_of_mem (F := Avtp_Can_GetPayload) called_inLib (by simp [called]) e
theorem find_Avtp_CanBrief_SetPayload (e : Endian) : findFn (prog e) "Avtp_CanBrief_SetPayload" = some Avtp_CanBrief_SetPayload :=
  find_of_mem (F := Avtp_CanBrief_SetPayload) called_inLib (by simp [called]) e
theorem find_Avtp_CanBrief_Finalize (e : Endian) : findFn (prog e) "Avtp_CanBrief_Finalize" = some Avtp_CanBrief_Finalize :=
  find_of_mem (F := Avtp_CanBrief_Finalize) called_inLib (by simp [called]) e
theorem find_Avtp_CanBrief_SetField (e : Endian) : findFn (prog e) "Avtp_CanBrief_SetField" = some Avtp_CanBrief_SetField :=
  find_of_mem (F := Avtp_CanBrief_SetField) called_inLib (by simp [called]) e

theorem find_Avtp_Bswap16 (e : Endian) : findFn (prog e) "Avtp_Bswap16" =
    some (match e with | .little => Little.Avtp_Bswap16 | .big => Big.Avtp_Bswap16) := by
  cases e <;> decide +kernel
theorem find_Avtp_Bswap32 (e : Endian) : findFn (prog e) "Avtp_Bswap32" =
    some (match e with | .little => Little.Avtp_Bswap32 | .big => Big.Avtp_Bswap32) := by
  cases e <;> decide +kernel
theorem find_Avtp_BeToCpu16 (e : Endian) : findFn (prog e) "Avtp_BeToCpu16" =
    some (match e with | .little => Little.Avtp_BeToCpu16 | .big => Big.Avtp_BeToCpu16) := by
  cases e <;> decide +kernel
theorem find_Avtp_BeToCpu32 (e : Endian) : findFn (prog e) "Avtp_BeToCpu32" =
    some (match e with | .little => Little.Avtp_BeToCpu32 | .big => Big.Avtp_BeToCpu32) := by
  cases e <;> decide +kernel
theorem find_Avtp_CpuToBe32 (e : Endian) : findFn (prog e) "Avtp_CpuToBe32" =
    some (match e with | .little => Little.Avtp_CpuToBe32 | .big => Big.Avtp_CpuToBe32) := by
  cases e <;> decide +kernel

end O1722.Refine
