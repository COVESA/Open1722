/-
  The C text of `Avtp_Vss_Pad` leaves exactly the memory the hand Model `vssPad 1` describes (C09), for
  every message length, PDU address, prior memory and host byte order.  The two facts linking the C table
  `Avtp_VssFieldDesc` to the Spec's field names (`hlen`, `hpad`) are hypotheses here; Refine/PropsVss.lean
  proves them of the regenerated table.  CODE-DEPENDENT.
-/
import O1722.Refine.Block
import O1722.Model.Vss
open O1722 O1722.C
namespace O1722.Refine
open Gen.Cir

section
variable (e : Endian) (rom : Nat → Byte) (glob : String → Nat) (tbl : List Desc) (tb : Nat)
  (hrom : RomTable rom tb tbl) (hvalid : ∀ d ∈ tbl, d.Valid)
  (hglob : glob "Avtp_VssFieldDesc" = tb) (hNl : 8 ≤ tbl.length)
  (hlen : ∀ m p v, setField e tbl 8 m (some p) 1 v = setNamed Spec.vss m p "ACF_MSG_LENGTH" v)
  (hpad : ∀ m p v, setField e tbl 8 m (some p) 2 v = setNamed Spec.vss m p "PAD" v)
include hrom hvalid hglob hNl hlen hpad

theorem Avtp_Vss_Pad_refines (p len : Nat) (hp0 : p ≠ 0) (hpb : p + 70000 ≤ 18446744073709551616)
    (hl : len < 65536) (m : Mem) :
    (callFn (mkEnv e rom glob) 40 "Avtp_Vss_Pad" [p, len] ⟨m, []⟩).map (fun r => (r.1, r.2.mem))
      = some (0, vssPad 1 m p len) := by
  have w : Writer e rom glob tbl 8 "Avtp_Vss_SetField" :=
    ⟨hvalid, by decide, hNl, "Avtp_VssFieldDesc", _, hglob ▸ hrom, find_Avtp_Vss_SetField e, rfl⟩
  have hr : len % 4 < 4 := Nat.mod_lt _ (by decide)
  let pad := (4 - len % 4) % 4
  let L := upd (mkFrame [p, len]) 2 pad
  let m1 := if len % 4 ≠ 0 then zeroFill m (p + len) pad else m
  have hm : vssPad 1 m p len
      = setField e tbl 8 (setField e tbl 8 m1 (some p) 1 ((len + pad) / 4)) (some p) 2 pad := by
    simp only [hlen, hpad, vssPad, Nat.mod_eq_of_lt hl, Nat.one_mul, m1, pad,
      Nat.mod_eq_of_lt (show (4 - len % 4) % 4 < 256 by omega)]
  have hc : evalE (mkEnv e rom glob) L (.bin .rem .i32 (.cast .u16 .i32 (.var 1)) (.lit 4)) = some (len % 4) := by
    simp (disch := omega) [csem, L]
  -- the `memset` runs when `len` is not a multiple of 4
  obtain ⟨l1, hfill⟩ : ∃ l, exec (mkEnv e rom glob) 38 Avtp_Vss_Pad_s1 L ⟨m, []⟩ = some (.next, L, ⟨m1, l⟩) := by
    by_cases hz : len % 4 ≠ 0
    · rw [show m1 = _ from if_pos hz]
      exact ⟨_, exec_ite_pos hc hz (exec_zeroFill (pd := p + len) (k := pad) (by simp (disch := omega) [csem, L])
        (by simp [csem]) (by simp (disch := omega) [csem, L, pad]) (by omega))⟩
    · rw [show m1 = _ from if_neg hz]
      exact ⟨_, exec_ite_neg (hc.trans (congrArg some (by omega))) exec_skip⟩
  rw [hm, callFn_next (find_Avtp_Vss_Pad e) (exec_seq (exec_set (v := pad) (by simp (disch := omega) [csem, pad]))
    (exec_seq hfill (exec_seq
      (w.call (p := p) (x := (len + pad) / 4) (by decide) rfl hp0 (by omega) (by decide)
        (by simp (disch := omega) [csem, L, pad]) (by omega))
      (w.call (p := p) (x := pad) (by decide) rfl hp0 (by omega) (by decide)
        (by simp (disch := omega) [csem, L, pad]) (by omega)))))]
  rfl
end

end O1722.Refine
