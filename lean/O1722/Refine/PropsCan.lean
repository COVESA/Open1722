/-
  C06 for the C text of `Avtp_Can_CreateAcfMessage` and `Avtp_CanBrief_SetPayload` with the tables /repo
  currently contains (`Gen.can.table`, `Gen.canBrief.table`, regenerated): the refinements composed with
  `C06_builder`.  CODE-DEPENDENT.
-/
import O1722.Refine.Props
import O1722.Refine.CanBrief
import O1722.Gen.Data
import O1722.Props.Can
open O1722 O1722.C
namespace O1722.Refine

/-- `C06_builder` for a payload that is the `n` bytes at `src`, the header length given as a number. -/
theorem C06_builder_read (s : Spec.FormatSpec) (ix : CanIdx) (hok : canOK s ix = true)
    (hw : writesWithin (s.initWrites true) s.headerLen = true ∧ writesWithin (s.initWrites false) s.headerLen = true)
    (H : Nat) (hH : s.headerLen = H) (m : Mem) (p frameId src n variant : Nat) (hn : n < 65536) :
    let r := canCreate s m p frameId (m.read src n) variant
    (∀ k, k < n → r.1 (p + H + k) = m (src + k)) ∧
    (∀ k, k < padOf n → r.1 (p + H + n + k) = 0) ∧
    (∀ a, (a < p ∨ p + H + n + padOf n ≤ a) → r.1 a = m a) ∧
    (∀ j fs, s.fields[j]? = some fs →
        specGet r.1 p fs.first fs.width = expected s p m j fs (canOps s ix frameId variant n)) ∧
    r.2 = H + n + padOf n := by
  subst hH
  have hlen : (m.read src n).length = n := read_length ..
  obtain ⟨c1, c2, c3, c4, c5⟩ := C06_builder s ix hok hw m p frameId (m.read src n) variant (by rw [hlen]; omega)
  rw [hlen] at c2 c3 c4 c5
  exact ⟨fun k hk => (c1 k (by rw [hlen]; exact hk)).trans (read_getElem ..), c2, c3, c4, c5⟩

section
variable (e : Endian) (rom : Nat → Byte) (glob : String → Nat) (tb : Nat)
  (hrom : RomTable rom tb Gen.can.table) (hglob : glob "Avtp_CanFieldDesc" = tb)
include hrom hglob

/-- **C06 on the C text (full ACF-CAN builder).**  For every identifier, variant, payload of any
    length < 2^16 read from `src` (not overlapping the destination, as `memcpy` demands), PDU
    address and prior memory: the payload is copied verbatim behind the 16-octet header, the pad
    bytes are zero, nothing before the PDU or behind the padded message changes, and every header
    field reads as the Model's operation list says (length in quadlets, pad, identifier, EFF, FDF;
    all others as before). -/
theorem C06_code (p frameId src n variant : Nat) (hp0 : p ≠ 0) (hpb : p + 70000 ≤ 18446744073709551616)
    (hf : frameId < 4294967296) (hvar : variant < 4294967296) (hn : n < 65536)
    (hsrc : n = 0 ∨ src ≠ 0) (hdis : n = 0 ∨ p + 16 + n ≤ src ∨ src + n ≤ p + 16) (m : Mem) :
    ∃ r, (callFn (mkEnv e rom glob) 60 "Avtp_Can_CreateAcfMessage" [p, frameId, src, n, variant] ⟨m, []⟩).map
          (fun x => (x.1, x.2.mem)) = some (0, r)
      ∧ (∀ k, k < n → r (p + 16 + k) = m (src + k))
      ∧ (∀ k, k < padOf n → r (p + 16 + n + k) = 0)
      ∧ (∀ a, (a < p ∨ p + 16 + n + padOf n ≤ a) → r a = m a)
      ∧ (∀ j fs, Spec.can.fields[j]? = some fs →
          specGet r p fs.first fs.width = expected Spec.can p m j fs (canOps Spec.can canIdxFull frameId variant n)) := by
  have row := fun i name fs d h1 h2 h3 h4 => setField_eq_setNamed Spec.can Gen.can.table 12 i name fs d h1 h2 h3 h4 e
  have h := Avtp_Can_CreateAcfMessage_refines e rom glob Gen.can.table tb hrom (by decide) hglob (by decide)
    (row 1 "ACF_MSG_LENGTH" _ _ rfl rfl (by decide) (by decide))
    (row 2 "PAD" _ _ rfl rfl (by decide) (by decide))
    (row 5 "EFF" _ _ rfl rfl (by decide) (by decide))
    (row 7 "FDF" _ _ rfl rfl (by decide) (by decide))
    (row 11 "CAN_IDENTIFIER" _ _ rfl rfl (by decide) (by decide))
    p frameId src n variant hp0 hpb hf hvar hn hsrc hdis m
  obtain ⟨c1, c2, c3, c4, _⟩ := C06_builder_read Spec.can canIdxFull can_layout_ok.1 (by decide) 16 rfl m p frameId src n variant hn
  exact ⟨_, h, c1, c2, c3, c4⟩
end

section
variable (e : Endian) (rom : Nat → Byte) (glob : String → Nat) (tb : Nat)
  (hrom : RomTable rom tb Gen.canBrief.table) (hglob : glob "Avtp_CanBriefFieldDesc" = tb)
include hrom hglob

/-- **C06 on the C text (abbreviated ACF-CAN builder)**, including the returned padded length. -/
theorem C06_code_brief (p frameId src n variant : Nat) (hp0 : p ≠ 0) (hpb : p + 70000 ≤ 18446744073709551616)
    (hf : frameId < 4294967296) (hvar : variant < 4294967296) (hn : n < 65536)
    (hsrc : n = 0 ∨ src ≠ 0) (hdis : n = 0 ∨ p + 8 + n ≤ src ∨ src + n ≤ p + 8) (m : Mem) :
    ∃ r, (callFn (mkEnv e rom glob) 60 "Avtp_CanBrief_SetPayload" [p, frameId, src, n, variant] ⟨m, []⟩).map
          (fun x => (x.1, x.2.mem)) = some (8 + n + padOf n, r)
      ∧ (∀ k, k < n → r (p + 8 + k) = m (src + k))
      ∧ (∀ k, k < padOf n → r (p + 8 + n + k) = 0)
      ∧ (∀ a, (a < p ∨ p + 8 + n + padOf n ≤ a) → r a = m a)
      ∧ (∀ j fs, Spec.canBrief.fields[j]? = some fs →
          specGet r p fs.first fs.width = expected Spec.canBrief p m j fs (canOps Spec.canBrief canIdxBrief frameId variant n)) := by
  have row := fun i name fs d h1 h2 h3 h4 => setField_eq_setNamed Spec.canBrief Gen.canBrief.table 11 i name fs d h1 h2 h3 h4 e
  have h := Avtp_CanBrief_SetPayload_refines e rom glob Gen.canBrief.table tb hrom (by decide) hglob (by decide)
    (row 1 "ACF_MSG_LENGTH" _ _ rfl rfl (by decide) (by decide))
    (row 2 "PAD" _ _ rfl rfl (by decide) (by decide))
    (row 5 "EFF" _ _ rfl rfl (by decide) (by decide))
    (row 7 "FDF" _ _ rfl rfl (by decide) (by decide))
    (row 10 "CAN_IDENTIFIER" _ _ rfl rfl (by decide) (by decide))
    p frameId src n variant hp0 hpb hf hvar hn hsrc hdis m
  obtain ⟨c1, c2, c3, c4, c5⟩ := C06_builder_read Spec.canBrief canIdxBrief can_layout_ok.2 (by decide) 8 rfl m p frameId src n
    variant hn
  rw [c5] at h
  exact ⟨_, h, c1, c2, c3, c4⟩
end

/-! The regenerated tables can be laid out as read-only data, so the hypotheses of `C06_code`,
    `C06_code_brief`, `C09_code` are satisfiable (with `glob := fun _ => 4096`). -/
example : RomTable (romOf 4096 Gen.can.table) 4096 Gen.can.table := romOf_table _ _ (by decide) (by decide) (by decide)
example : RomTable (romOf 4096 Gen.canBrief.table) 4096 Gen.canBrief.table := romOf_table _ _ (by decide) (by decide) (by decide)
example : RomTable (romOf 4096 Gen.vss.table) 4096 Gen.vss.table := romOf_table _ _ (by decide) (by decide) (by decide)

end O1722.Refine
