/-
  C01 / C02 for the C text of every dedicated and generic accessor of a format: `checkC01/02 spec gen`
  (the accessor records of Gen/Data.lean meet the Spec) and `checkAccessors gen fns` (the records are what
  the C text of Gen/Cir.lean says) together give: running the body of the C function named like the Spec's
  accessor returns the field's wire bits / performs the reference write.  Instantiated per format in the
  regenerated Gen/InstAcc.lean.
-/
import O1722.Refine.Accessors
import O1722.Props.Fields
open O1722 O1722.C O1722.Spec
namespace O1722.Refine

section
variable (e : Endian) (rom : Nat → Byte) (glob : String → Nat) (s : FormatSpec) (g : GenFormat) (fns : List Fn)
  (tb : Nat) (hrom : RomTable rom tb g.table) (hvalid : ∀ d ∈ g.table, d.Valid) (hglob : glob g.tableName = tb)
  (hacc : checkAccessors g fns = true)
include hrom hvalid hglob hacc

/-- **C01, dedicated getters, on the C text.** -/
theorem C01_code_dedicated (h01 : checkC01 s g = true) (x : Getter) (hx : x ∈ g.getters) (hd : x.field.isSome = true)
    (p : Nat) (hp0 : p ≠ 0) (hpb : p + 1024 ≤ 18446744073709551616) (m : Mem) :
    ∃ fs ∈ s.fields, s.getterName fs = x.fn ∧ ∃ F ∈ fns, F.name = x.fn ∧
      (exec (mkEnv e rom glob) 31 F.body (mkFrame [p, 0]) ⟨m, []⟩).map (fun r => (r.1, r.2.2.mem))
        = some (.ret (specGet m p fs.first fs.width), m) := by
  obtain ⟨fs, hfs, hname, hrun⟩ := (C01_format s g h01).2 x hx hd
  simp only [checkAccessors, Bool.and_eq_true, List.all_eq_true] at hacc
  obtain ⟨F, hF, hFn, hex⟩ := getter_code e rom glob g tb hrom hvalid hglob fns x (hacc.1 x hx) (some p)
    (pdu_some hp0 hpb) 0 (by decide) m
  refine ⟨fs, hfs, hname, F, hF, hFn, ?_⟩
  rw [show (some p).getD 0 = p from rfl] at hex
  rw [hex, hrun]

/-- **C01, generic by-identifier readers, on the C text.** -/
theorem C01_code_generic (h01 : checkC01 s g = true) (fs : FieldSpec) (hfs : fs ∈ s.fields)
    (x : Getter) (hx : x ∈ g.genericGetters)
    (p : Nat) (hp0 : p ≠ 0) (hpb : p + 1024 ≤ 18446744073709551616) (m : Mem) :
    ∃ i, g.enumValue fs.enumName = some i ∧ (i < 4294967296 → ∃ F ∈ fns, F.name = x.fn ∧
      (exec (mkEnv e rom glob) 31 F.body (mkFrame [p, i]) ⟨m, []⟩).map (fun r => (r.1, r.2.2.mem))
        = some (.ret (specGet m p fs.first fs.width), m)) := by
  obtain ⟨i, hi, hrun⟩ := (C01_format s g h01).1 fs hfs
  refine ⟨i, hi, ?_⟩
  intro hi32
  simp only [checkAccessors, Bool.and_eq_true, List.all_eq_true] at hacc
  have hxg : x ∈ g.getters := (List.mem_filter.mp hx).1
  obtain ⟨F, hF, hFn, hex⟩ := getter_code e rom glob g tb hrom hvalid hglob fns x (hacc.1 x hxg) (some p)
    (pdu_some hp0 hpb) i hi32 m
  refine ⟨F, hF, hFn, ?_⟩
  rw [show (some p).getD 0 = p from rfl] at hex
  rw [hex, hrun x hx e m p]

/-- **C02, dedicated setters, on the C text**: every value of the parameter type is stored modulo
    the field width in exactly the field's bit range. -/
theorem C02_code_dedicated (h02 : checkC02 s g = true) (x : Setter) (hx : x ∈ g.setters) (hd : x.field.isSome = true)
    (hvb : x.valueBits ≤ 64)
    (p v : Nat) (hp0 : p ≠ 0) (hpb : p + 1024 ≤ 18446744073709551616) (hv : v < 2 ^ x.valueBits) (m : Mem) :
    ∃ fs ∈ s.fields, s.setterName fs = x.fn ∧ ∃ F ∈ fns, F.name = x.fn ∧
      (exec (mkEnv e rom glob) 31 F.body (mkFrame [p, v]) ⟨m, []⟩).map (fun r => r.2.2.mem)
        = some (specSet m p fs.first fs.width (v % 2 ^ fs.width)) := by
  obtain ⟨fs, hfs, _, hname, _, hrun⟩ := (C02_format s g h02).2 x hx hd
  simp only [checkAccessors, Bool.and_eq_true, List.all_eq_true] at hacc
  obtain ⟨F, hF, hFn, hex⟩ := setter_code e rom glob g tb hrom hvalid hglob fns x (hacc.2 x hx) (some p)
    (pdu_some hp0 hpb) 0 v (by decide) hv hvb m
  refine ⟨fs, hfs, hname, F, hF, hFn, ?_⟩
  cases hf : x.field with
  | none => rw [hf] at hd; cases hd
  | some fk =>
    rw [hf] at hex
    simp only at hex
    rw [show (some p).getD 0 = p from rfl] at hex
    rw [hex, hrun e m p 0 v hv]
end

end O1722.Refine
