/-
  Properties of the C text of Utils.c: the refinement theorems (`Avtp_GetField_refines`,
  `Avtp_SetField_refines`) composed with the theorems about the Model.  Every statement is about
  `callFn (mkEnv e rom glob) 27 "Avtp_…" args ⟨m, []⟩`, i.e. about running the function /repo currently
  contains; `= some …` includes: terminates within the fuel, no signed overflow, no out-of-range shift, no
  NULL dereference.  CODE-DEPENDENT.
-/
import O1722.Refine.UtilsSet
import O1722.Props.Fields

open O1722 O1722.C
namespace O1722.Refine

section
variable (e : Endian) (rom : Nat → Byte) (glob : String → Nat) (tbl : List Desc) (tb : Nat)
  (hrom : RomTable rom tb tbl) (hvalid : ∀ d ∈ tbl, d.Valid)
  (numFields : Nat) (hnf : numFields < 256) (hn : numFields ≤ tbl.length)
include hrom hvalid hnf hn

/-- **C01 on the C text.** The generic reader returns exactly the field's wire bits, MSB first,
    leaves memory unchanged, and every access it makes is a byte-wise (alignment 1) read of a
    quadlet the field occupies (C03, C15, C16-reader). -/
theorem C01_code (field : Nat) (hfield : field < numFields) (p : Nat) (hp0 : p ≠ 0)
    (hpb : p + 1024 ≤ 18446744073709551616) (m : Mem) :
    ∃ log, callFn (mkEnv e rom glob) 27 "Avtp_GetField" [tb, numFields, p, field] ⟨m, []⟩
        = some (specGet m p (tbl[field]'(by omega)).start (tbl[field]'(by omega)).bits, ⟨m, log⟩)
      ∧ ∀ a ∈ log, FieldAccess (tbl[field]'(by omega)) p a ∧ a.write = false ∧ a.align = 1 := by
  have hfl : field < tbl.length := by omega
  have hrow : tbl[field]? = some tbl[field] := List.getElem?_eq_getElem hfl
  have hd : (tbl[field]).Valid := hvalid _ (List.getElem_mem hfl)
  have h := Avtp_GetField_refines e rom glob tbl tb hrom hvalid numFields field hnf (by omega) hn (some p)
    (by intro q hq; cases hq; exact ⟨hp0, hpb⟩) m
  refine ⟨(getFieldLog e tbl numFields m (some p) field).2, ?_, ?_⟩
  · rw [show (some p).getD 0 = p from rfl] at h
    rw [h]
    have := getField_spec e tbl numFields m p field _ hfield hrow hd
    unfold getField at this
    rw [this]
  · intro a ha
    obtain ⟨h1, h2⟩ := getFieldLog_accesses e tbl numFields m p field _ hrow hd a ha
    exact ⟨h1, h2, h1.2.1⟩

/-- **C02 on the C text.** The generic writer performs exactly the reference write of the value
    into the field's bit range (hence changes nothing else), and every access it makes is a
    byte-wise access of a quadlet the field occupies. -/
theorem C02_code (field value : Nat) (hfield : field < numFields) (hv : value < 18446744073709551616)
    (p : Nat) (hp0 : p ≠ 0) (hpb : p + 1024 ≤ 18446744073709551616) (m : Mem) :
    ∃ log, callFn (mkEnv e rom glob) 27 "Avtp_SetField" [tb, numFields, p, field, value] ⟨m, []⟩
        = some (0, ⟨specSet m p (tbl[field]'(by omega)).start (tbl[field]'(by omega)).bits value, log⟩)
      ∧ ∀ a ∈ log, FieldAccess (tbl[field]'(by omega)) p a := by
  have hfl : field < tbl.length := by omega
  have hrow : tbl[field]? = some tbl[field] := List.getElem?_eq_getElem hfl
  have hd : (tbl[field]).Valid := hvalid _ (List.getElem_mem hfl)
  have h := Avtp_SetField_refines e rom glob tbl tb hrom hvalid numFields field value hnf (by omega) hv hn (some p)
    (by intro q hq; cases hq; exact ⟨hp0, hpb⟩) m
  refine ⟨(setFieldLog e tbl numFields m (some p) field value).2, ?_, ?_⟩
  · rw [show (some p).getD 0 = p from rfl] at h
    rw [h]
    have := setField_spec e tbl numFields m p field value _ hfield hrow hd
    unfold setField at this
    rw [this, Nat.mod_eq_of_lt hv]
  · intro a ha
    exact setFieldLog_accesses e tbl numFields m p field value _ hrow hd a ha

/-- **C11 on the C text.** A NULL PDU or an identifier outside the enumeration: the reader
    returns 0, the writer returns, and neither touches memory at all (empty access log). -/
theorem C11_code (field value : Nat) (hfield32 : field < 4294967296) (hv : value < 18446744073709551616)
    (pdu : Option Nat) (hpdu : ∀ p, pdu = some p → p ≠ 0 ∧ p + 1024 ≤ 18446744073709551616)
    (hrej : pdu = none ∨ numFields ≤ field) (m : Mem) :
    callFn (mkEnv e rom glob) 27 "Avtp_GetField" [tb, numFields, pdu.getD 0, field] ⟨m, []⟩ = some (0, ⟨m, []⟩)
    ∧ callFn (mkEnv e rom glob) 27 "Avtp_SetField" [tb, numFields, pdu.getD 0, field, value] ⟨m, []⟩
        = some (0, ⟨m, []⟩) := by
  constructor
  · rw [Avtp_GetField_refines e rom glob tbl tb hrom hvalid numFields field hnf hfield32 hn pdu hpdu m,
      getFieldLog_rejected e tbl numFields m pdu field hrej]
  · rw [Avtp_SetField_refines e rom glob tbl tb hrom hvalid numFields field value hnf hfield32 hv hn pdu hpdu m,
      setFieldLog_rejected e tbl numFields m pdu field value hrej]

/-- **C14 on the C text.** Built for a little-endian or a big-endian host (the two preprocessed
    forms of Byteorder.h, the two byte orders of the 32-bit object), the reader returns the same
    value and the writer leaves the same bytes. -/
theorem C14_code (field value : Nat) (hfield : field < numFields) (hv : value < 18446744073709551616)
    (p : Nat) (hp0 : p ≠ 0) (hpb : p + 1024 ≤ 18446744073709551616) (m : Mem) :
    (callFn (mkEnv .little rom glob) 27 "Avtp_GetField" [tb, numFields, p, field] ⟨m, []⟩).map (·.1)
      = (callFn (mkEnv .big rom glob) 27 "Avtp_GetField" [tb, numFields, p, field] ⟨m, []⟩).map (·.1)
    ∧ (callFn (mkEnv .little rom glob) 27 "Avtp_SetField" [tb, numFields, p, field, value] ⟨m, []⟩).map (·.2.mem)
      = (callFn (mkEnv .big rom glob) 27 "Avtp_SetField" [tb, numFields, p, field, value] ⟨m, []⟩).map (·.2.mem) := by
  obtain ⟨l1, h1, _⟩ := C01_code .little rom glob tbl tb hrom hvalid numFields hnf hn field hfield p hp0 hpb m
  obtain ⟨l2, h2, _⟩ := C01_code .big rom glob tbl tb hrom hvalid numFields hnf hn field hfield p hp0 hpb m
  obtain ⟨l3, h3, _⟩ := C02_code .little rom glob tbl tb hrom hvalid numFields hnf hn field value hfield hv p hp0 hpb m
  obtain ⟨l4, h4, _⟩ := C02_code .big rom glob tbl tb hrom hvalid numFields hnf hn field value hfield hv p hp0 hpb m
  rw [h1, h2, h3, h4]; simp
end


def romOf (tb : Nat) (tbl : List Desc) : Nat → Byte := fun a =>
  if tb ≤ a then
    match tbl[(a - tb) / 3]? with
    | some d => Fin.ofNat 256 (if (a - tb) % 3 = 0 then d.quadlet else if (a - tb) % 3 = 1 then d.offset else d.bits)
    | none => 0
  else 0

theorem romOf_table (tb : Nat) (tbl : List Desc) (h0 : tb ≠ 0) (hb : tb + 3 * tbl.length < 18446744073709551616)
    (hsmall : ∀ d ∈ tbl, d.quadlet < 256 ∧ d.offset < 256 ∧ d.bits < 256) : RomTable (romOf tb tbl) tb tbl := by
  refine ⟨?_, hb, h0⟩
  intro i hi
  obtain ⟨h1, h2, h3⟩ := hsmall _ (List.getElem_mem hi)
  have e0 : (tb + 3 * i - tb) / 3 = i ∧ (tb + 3 * i - tb) % 3 = 0 := by omega
  have e1 : (tb + 3 * i + 1 - tb) / 3 = i ∧ (tb + 3 * i + 1 - tb) % 3 = 1 := by omega
  have e2 : (tb + 3 * i + 2 - tb) / 3 = i ∧ (tb + 3 * i + 2 - tb) % 3 = 2 := by omega
  refine ⟨?_, ?_, ?_⟩
  · simp only [romOf, if_pos (show tb ≤ tb + 3 * i by omega), e0.1, e0.2, List.getElem?_eq_getElem hi]
    simp [Fin.ofNat, Nat.mod_eq_of_lt h1]
  · simp only [romOf, if_pos (show tb ≤ tb + 3 * i + 1 by omega), e1.1, e1.2, List.getElem?_eq_getElem hi]
    simp [Fin.ofNat, Nat.mod_eq_of_lt h2]
  · simp only [romOf, if_pos (show tb ≤ tb + 3 * i + 2 by omega), e2.1, e2.2, List.getElem?_eq_getElem hi]
    simp [Fin.ofNat, Nat.mod_eq_of_lt h3]

/-- A concrete table (the 48-bit GPC message id at offset 16, a 64-bit timestamp, a 1-bit flag)
    satisfies every hypothesis of `C01_code` / `C02_code`. -/
example : RomTable (romOf 4096 [⟨0, 16, 48⟩, ⟨1, 0, 64⟩, ⟨0, 31, 1⟩]) 4096 [⟨0, 16, 48⟩, ⟨1, 0, 64⟩, ⟨0, 31, 1⟩]
    ∧ (∀ d ∈ [(⟨0, 16, 48⟩ : Desc), ⟨1, 0, 64⟩, ⟨0, 31, 1⟩], d.Valid) :=
  ⟨romOf_table _ _ (by decide) (by decide) (by decide), by decide⟩

end O1722.Refine
