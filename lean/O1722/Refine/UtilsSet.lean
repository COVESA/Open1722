/-
  The C text of `Avtp_SetField` computes what the hand Model `setFieldLog` computes — final memory and
  access log — for every valid descriptor table, field identifier, value, PDU address, memory and host
  byte order.  CODE-DEPENDENT (see Refine/Utils.lean).
-/
import O1722.Refine.Utils
open O1722 O1722.C
namespace O1722.Refine
open Gen.Cir

section
variable (e : Endian) (rom : Nat → Byte) (glob : String → Nat) (d : Desc) (fd : Nat)
  (hq : (rom fd).val = d.quadlet) (ho : (rom (fd + 1)).val = d.offset) (hb : (rom (fd + 2)).val = d.bits)
  (hfd : fd + 2 < 18446744073709551616) (hd : d.Valid)
include hq ho hb hfd hd

theorem setBody (pdu : Nat) (hpdu : pdu + 1024 ≤ 18446744073709551616) (hp0 : pdu ≠ 0)
    (m : Mem) (log : List Access) (L : Locals) (qo pb value : Nat)
    (h2 : L 2 = pdu) (h4 : L 4 = value) (h5 : L 5 = fd) (h6 : L 6 = qo) (h7 : L 7 = pb)
    (hinv : PosInv d qo pb) (hlt : pb < d.bits) (hqo : qo < 256) (f : Nat) :
    let qid := (d.quadlet + qo) % 256
    let qbits := quadletBits d pb
    let qshift := quadletShift d pb qbits
    let part := (value >>> (d.bits - pb - qbits)) % 2 ^ 32
    let mask := quadletMask qbits qshift
    let addr := pdu + qid * 4
    let host := beCpu32 e (load e 4 m addr)
    let host' := (host &&& (mask ^^^ (2 ^ 32 - 1))) ||| (((part <<< qshift) % 2 ^ 32) &&& mask)
    ∃ L', exec (mkEnv e rom glob) (f + 18) Avtp_SetField_w0_body L ⟨m, log⟩
        = some (.next, L', ⟨store e 4 m addr (beCpu32 e host'),
                            log ++ [⟨addr, 4, 1, false⟩, ⟨addr, 4, 1, true⟩]⟩)
      ∧ L' 2 = pdu ∧ L' 4 = value ∧ L' 5 = fd
      ∧ L' 6 = (qo + 1) % 256 ∧ L' 7 = (pb + qbits) % 256 := by
  intro qid qbits qshift part mask addr host host'
  obtain ⟨g1, g2, g3, -, g5, -⟩ := chunk_geom d hd qo pb hlt hinv.2
  have hdb : d.bits ≤ 64 := hd.2.1
  clear hinv
  have hdq : d.quadlet < 256 := by rw [← hq]; exact (rom fd).isLt
  have hqid : qid < 256 := Nat.mod_lt _ (by decide)
  obtain ⟨h1, h1'⟩ := one_shl_bounds (show qbits ≤ 32 by omega)
  refine ⟨?_, ?_, ?_⟩
  rotate_left
  · rw [List.append_cons]
    refine exec_seq (exec_set (v := qid) (by simp (disch := omega) [csem, h5, h6, hq, qid])) ?_
    refine exec_seq (w0_s1 e rom glob d fd ho hb hfd hd _ _ _ pb (by simp [upd, h5]) (by simp [upd, h7]) hlt) ?_
    refine exec_seq (exec_set (v := part) (by simp (disch := omega) [csem, h4, h5, h7, hb, part, qbits])) ?_
    refine exec_seq (exec_set (v := mask) (by simp (disch := omega) [csem, mask, qbits, qshift, quadletMask])) ?_
    refine exec_seq (exec_set (v := addr) (by simp (disch := omega) [csem, h2, addr])) ?_
    refine exec_seq (exec_loadObj (p := addr) (by simp [csem]) (by show pdu + qid * 4 ≠ 0; omega)) ?_
    refine exec_seq (exec_seq (call_beCpu32 e rom glob (.inl rfl) _ 16 _ _ _ (load e 4 m addr) (by simp [csem]))
      (exec_set (v := host) (by simp [csem, host]))) ?_
    refine exec_seq (exec_set (v := host') (by simp (disch := omega) [csem, host', qshift, qbits])) ?_
    refine exec_seq (exec_seq (call_beCpu32 e rom glob (.inr rfl) _ 17 _ _ _ host' (by simp [csem]))
      (exec_set (v := beCpu32 e host') (by simp [csem]))) ?_
    refine exec_seq (exec_storeObj (p := addr) (by simp [csem]) (by show pdu + qid * 4 ≠ 0; omega)) ?_
    refine exec_seq (exec_set (v := (qo + 1) % 256) (by simp (disch := omega) [csem, h6])) ?_
    refine exec_set (v := (pb + qbits) % 256) ?_
    simp (disch := omega) [csem, h7, qbits]
  · simp [upd, h2, h4, h5]

theorem setLoop_refines (pdu : Nat) (hpdu : pdu + 1024 ≤ 18446744073709551616) (hp0 : pdu ≠ 0)
    (value : Nat) :
    ∀ (k : Nat) (L : Locals) (m : Mem) (log : List Access) (qo pb : Nat),
      L 2 = pdu → L 4 = value → L 5 = fd → L 6 = qo → L 7 = pb → PosInv d qo pb → qo < 256 →
      (d.bits - pb) + (if pb = 0 then d.offset else 0) ≤ 32 * k →
      ∃ L', exec (mkEnv e rom glob) (k + 19) (.while Avtp_SetField_w0_cond Avtp_SetField_w0_body) L ⟨m, log⟩
          = some (.next, L', ⟨(setLoop e d pdu value k qo pb m log).1, (setLoop e d pdu value k qo pb m log).2⟩) := by
  intro k
  induction k with
  | zero =>
    intro L m log qo pb h2 h4 h5 h6 h7 hinv hqo hk
    have hc := w0_cond_eval e rom glob d fd hb hfd L pb h5 h7 (by have := hinv.1; have := hd.2.1; omega)
    exact ⟨L, exec_while_neg (hc.trans (by simp; omega))⟩
  | succ k ih =>
    intro L m log qo pb h2 h4 h5 h6 h7 hinv hqo hk
    have hc := w0_cond_eval e rom glob d fd hb hfd L pb h5 h7 (by have := hinv.1; have := hd.2.1; omega)
    rw [setLoop]
    by_cases hlt : pb < d.bits
    · obtain ⟨L1, hb1, k2, k4, k5, k6, k7⟩ :=
        setBody e rom glob d fd hq ho hb hfd hd pdu hpdu hp0 m log L qo pb value h2 h4 h5 h6 h7 hinv hlt hqo (k + 1)
      obtain ⟨L', hex⟩ := ih L1 _ _ _ _ k2 k4 k5 k6 k7 (posInv_step d hd qo pb hinv hlt).1
        (Nat.mod_lt _ (by decide)) (walk_variant d hd qo pb k hinv hlt hk)
      rw [if_pos hlt]
      exact ⟨L', exec_while_pos hc (by simp [hlt]) hb1 hex⟩
    · rw [if_neg hlt]
      exact ⟨L, exec_while_neg (hc.trans (by simp [hlt]))⟩
end

theorem setLoop_append (e : Endian) (d : Desc) (pdu v : Nat) (l0 : List Access) :
    ∀ k qo pb m l, setLoop e d pdu v k qo pb m (l0 ++ l)
      = ((setLoop e d pdu v k qo pb m l).1, l0 ++ (setLoop e d pdu v k qo pb m l).2) := by
  intro k
  induction k with
  | zero => intros; rfl
  | succ k ih =>
    intro qo pb m l
    simp only [setLoop]
    split
    · rw [List.append_assoc, ih]
    · rfl

theorem Avtp_SetField_refines_from (l0 : List Access) (e : Endian) (rom : Nat → Byte) (glob : String → Nat) (tbl : List Desc) (tb : Nat)
    (hrom : RomTable rom tb tbl) (hvalid : ∀ d ∈ tbl, d.Valid)
    (numFields field value : Nat) (hnf : numFields < 256) (hfield : field < 4294967296)
    (hv : value < 18446744073709551616) (hn : numFields ≤ tbl.length)
    (pdu : Option Nat) (hpdu : ∀ p, pdu = some p → p ≠ 0 ∧ p + 1024 ≤ 18446744073709551616) (m : Mem) :
    callFn (mkEnv e rom glob) 27 "Avtp_SetField" [tb, numFields, pdu.getD 0, field, value] ⟨m, l0⟩
      = some (0, ⟨setField e tbl numFields m pdu field value, l0 ++ (setFieldLog e tbl numFields m pdu field value).2⟩) := by
  have htb := hrom.nonnull
  by_cases hgo : pdu.getD 0 ≠ 0 ∧ field < numFields
  · obtain ⟨hp, hf⟩ := hgo
    obtain ⟨p, rfl⟩ : ∃ p, pdu = some p := by
      cases pdu with
      | none => simp at hp
      | some p => exact ⟨p, rfl⟩
    obtain ⟨hp0, hpb⟩ := hpdu p rfl
    have hfl : field < tbl.length := by omega
    obtain ⟨r1, r2, r3⟩ := hrom.rows field hfl
    have hbound := hrom.bound
    have hd : (tbl[field]).Valid := hvalid _ (List.getElem_mem hfl)
    obtain ⟨L', hloop⟩ := setLoop_refines e rom glob tbl[field] (tb + 3 * field) r1 r2 r3 (by omega) hd p hpb hp0 value 4
      (upd (upd (upd (mkFrame [tb, numFields, p, field, value]) 5 (tb + 3 * field)) 6 0) 7 0) m l0 0 0
      rfl rfl rfl rfl rfl (posInv_init _) (by decide) (by have := hd.1; have := hd.2.1; simp; omega)
    have happ := setLoop_append e tbl[field] p value l0 4 0 0 m []
    rw [List.append_nil] at happ
    rw [happ] at hloop
    rw [setField, show setFieldLog e tbl numFields m (some p) field value = setLoop e tbl[field] p value 4 0 0 m [] by
      simp [setFieldLog, hf, hfl, loopFuel, Nat.mod_eq_of_lt hv]]
    refine callFn_next (find_Avtp_SetField e) (exec_ite_pos (x := 1) ?_ (by decide)
      (exec_seq (exec_set ?_) (exec_seq (exec_set (v := 0) ?_) (exec_seq (exec_set (v := 0) ?_) hloop))))
    · simp (disch := omega) [csem, htb, hp0, hf]
    · simp (disch := omega) [csem]; omega
    · simp (disch := omega) [csem]
    · simp (disch := omega) [csem]
  · have hrej : pdu = none ∨ numFields ≤ field := by
      cases pdu with
      | none => exact .inl rfl
      | some p => exact .inr (Nat.not_lt.mp fun h => hgo ⟨by simpa using (hpdu p rfl).1, h⟩)
    rw [setField, setFieldLog_rejected e tbl numFields m pdu field value hrej, List.append_nil]
    refine callFn_next (find_Avtp_SetField e) (exec_ite_neg ?_ exec_skip)
    by_cases hp : pdu.getD 0 = 0
    · simp (disch := omega) [csem, htb, hp]
    · have hf : ¬ field < numFields := fun h => hgo ⟨hp, h⟩
      simp (disch := omega) [csem, htb, hp, hf]

theorem Avtp_SetField_refines (e : Endian) (rom : Nat → Byte) (glob : String → Nat) (tbl : List Desc) (tb : Nat)
    (hrom : RomTable rom tb tbl) (hvalid : ∀ d ∈ tbl, d.Valid)
    (numFields field value : Nat) (hnf : numFields < 256) (hfield : field < 4294967296)
    (hv : value < 18446744073709551616) (hn : numFields ≤ tbl.length)
    (pdu : Option Nat) (hpdu : ∀ p, pdu = some p → p ≠ 0 ∧ p + 1024 ≤ 18446744073709551616) (m : Mem) :
    callFn (mkEnv e rom glob) 27 "Avtp_SetField" [tb, numFields, pdu.getD 0, field, value] ⟨m, []⟩
      = some (0, ⟨(setFieldLog e tbl numFields m pdu field value).1, (setFieldLog e tbl numFields m pdu field value).2⟩) :=
  Avtp_SetField_refines_from [] e rom glob tbl tb hrom hvalid numFields field value hnf hfield hv hn pdu hpdu m

end O1722.Refine
