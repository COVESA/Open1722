/-
  What the proofs about the library's builders and initialisers share: running a block `{ s₁; …; sₙ }`
  given as the LIST of its statements (`Steps`, `exec_seqOf`), so that a block can be built by a function,
  shared between two C functions or walked by induction; `memset(p, 0, n)`; and a format's by-identifier
  writer called with a constant identifier (`Writer.call`).
-/
import O1722.Refine.Calls
import O1722.Lemmas.Mem
open O1722 O1722.C
namespace O1722.Refine

theorem exec_zeroFill {env : Env} {f : Nat} {L : Locals} {s : St} {d v n : Expr} {pd k : Nat}
    (hd : evalE env L d = some pd) (hv : evalE env L v = some 0) (hn : evalE env L n = some k) (hp : k = 0 ∨ pd ≠ 0) :
    exec env (f + 1) (.fill d v n) L s = some (.next, L, ⟨zeroFill s.mem pd k, s.log ++ [⟨pd, k, 1, true⟩]⟩) := by
  rw [exec_fill hd hv hn hp, ← write_replicate_zero]; rfl

/-- `{ s₁; …; sₙ }` as the serialiser nests it. -/
def seqOf : List Stmt → Option Stmt
  | [] => none
  | [s] => some s
  | s :: rest => (seqOf rest).map (.seq s)

inductive Steps (env : Env) (f : Nat) : List Stmt → Locals → St → Locals → St → Prop
  | nil {L s} : Steps env f [] L s L s
  | cons {x r L s L1 s1 L' s'} : exec env f x L s = some (.next, L1, s1) → Steps env f r L1 s1 L' s' →
      Steps env f (x :: r) L s L' s'

theorem seqOf_cons_cons {x t : Stmt} {r : List Stmt} {body : Stmt} (h : seqOf (x :: t :: r) = some body) :
    ∃ b, seqOf (t :: r) = some b ∧ body = .seq x b := by
  obtain ⟨b, hb, rfl⟩ := Option.map_eq_some_iff.mp (h : (seqOf (t :: r)).map (.seq x) = some body)
  exact ⟨b, hb, rfl⟩

theorem exec_seqOf_concat {env : Env} {f : Nat} {k : Stmt} {r : Option (Ctl × Locals × St)} :
    ∀ {l : List Stmt} {body : Stmt} {L s L' s'}, seqOf (l ++ [k]) = some body → Steps env f l L s L' s' →
      exec env f k L' s' = r → exec env (f + l.length) body L s = r
  | [], _, _, _, _, _, h, .nil, hk => by cases h; exact hk
  | x :: t, _, _, _, _, _, h, .cons hx hs, hk => by
    obtain ⟨y, u, hu⟩ : ∃ y u, t ++ [k] = y :: u := by cases t <;> simp
    rw [List.cons_append, hu] at h
    obtain ⟨b, hb, rfl⟩ := seqOf_cons_cons h
    exact exec_seq (exec_le env (Nat.le_add_right ..) hx) (exec_seqOf_concat (hu ▸ hb) hs hk)

theorem exec_seqOf {env : Env} {f : Nat} : ∀ {l : List Stmt} {body : Stmt} {L s L' s'}, seqOf l = some body →
      Steps env f l L s L' s' → exec env (f + l.length) body L s = some (.next, L', s')
  | [x], _, _, _, _, _, h, .cons hx .nil => by cases h; exact exec_le env (Nat.le_add_right ..) hx
  | x :: t :: u, _, _, _, _, _, h, .cons hx hs => by
    obtain ⟨b, hb, rfl⟩ := seqOf_cons_cons h
    exact exec_seq (exec_le env (Nat.le_add_right ..) hx) (exec_seqOf hb hs)

/-- In the program for host `e`, `set(pdu, field, value)` is `Avtp_SetField(T, N, pdu, field, value)`
    on the `N`-row table `tbl`, which the constant data holds at `glob T`. -/
structure Writer (e : Endian) (rom : Nat → Byte) (glob : String → Nat) (tbl : List Desc) (N : Nat) (set : String) :
    Prop where
  valid : ∀ d ∈ tbl, d.Valid
  lt : N < 256
  le : N ≤ tbl.length
  code : ∃ T F, RomTable rom (glob T) tbl ∧ findFn (Gen.Cir.prog e) set = some F ∧
    F.body = .call none "Avtp_SetField" [.glob T, .cast .i32 .u8 (.lit N), .var 0, .var 1, .var 2]

theorem Writer.call {e : Endian} {rom : Nat → Byte} {glob : String → Nat} {tbl : List Desc} {N : Nat} {set : String}
    (w : Writer e rom glob tbl N set) {g : Nat} (hg : 29 ≤ g) {L : Locals} {v : Expr} {p i x : Nat}
    (hp : L 0 = p) (hp0 : p ≠ 0) (hpb : p + 1024 ≤ 18446744073709551616) (hi : i < 2147483648)
    (hv : evalE (mkEnv e rom glob) L v = some x) (hx : x < 18446744073709551616) {m : Mem} {l0 : List Access} :
    exec (mkEnv e rom glob) g (.call none set [.var 0, .cast .i32 .u32 (.lit i), v]) L ⟨m, l0⟩
      = some (.next, L, ⟨setField e tbl N m (some p) i x, l0 ++ (setFieldLog e tbl N m (some p) i x).2⟩) := by
  obtain ⟨T, F, hrom, hF, hbody⟩ := w.code
  exact exec_call (vs := [p, i, x]) (by simp (disch := omega) [csem, hp, hv]) (callFn_next hF (hbody ▸
    call_SetField e rom glob tbl (glob T) hrom w.valid (L := mkFrame [p, i, x]) (g := 28) rfl w.lt w.le (some p)
      (pdu_some hp0 hpb) m l0 rfl rfl (by omega) rfl hx (by decide))) hg

end O1722.Refine
