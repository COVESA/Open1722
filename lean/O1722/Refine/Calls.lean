/-
  Calling the two Utils.c functions from other C functions: a `call` statement whose callee is
  `Avtp_GetField` / `Avtp_SetField` behaves as the Model function, at any sufficient fuel and continuing
  any access log.
-/
import O1722.Refine.UtilsSet
open O1722 O1722.C
namespace O1722.Refine

/-- `getFieldLog` continuing an access log `l0` (the Model's function starts from the empty log). -/
def getFieldLogFrom (l0 : List Access) (e : Endian) (tbl : List Desc) (numFields : Nat) (m : Mem)
    (pdu : Option Nat) (field : Nat) : Nat × List Access :=
  match pdu with
  | none => (0, l0)
  | some p =>
    if field < numFields then
      match tbl[field]? with
      | some d => getLoop e d m p loopFuel 0 0 0 l0
      | none => (0, l0)
    else (0, l0)

theorem getFieldLogFrom_eq (l0 : List Access) (e : Endian) (tbl : List Desc) (n : Nat) (m : Mem) (pdu : Option Nat)
    (i : Nat) : getFieldLogFrom l0 e tbl n m pdu i
      = (getField e tbl n m pdu i, l0 ++ (getFieldLog e tbl n m pdu i).2) := by
  unfold getFieldLogFrom getField getFieldLog
  cases pdu with
  | none => simp
  | some p =>
    simp only
    split
    · cases tbl[i]? with
      | none => simp
      | some d => simpa using getLoop_append e d m p l0 loopFuel 0 0 0 []
    · simp

section
variable (e : Endian) (rom : Nat → Byte) (glob : String → Nat) (tbl : List Desc) (tb : Nat)
  (hrom : RomTable rom tb tbl) (hvalid : ∀ d ∈ tbl, d.Valid)
include hrom hvalid

/-- Every call of `Avtp_SetField` in the library reads `Avtp_SetField(T, N, pdu, K, V)`: a table, the number
    of its rows, the caller's own first parameter. -/
theorem call_SetField {T : String} {N k v g : Nat} {K V : Expr} {L : Locals} (hT : glob T = tb) (hN : N < 256)
    (hNl : N ≤ tbl.length) (pdu : Option Nat) (hpdu : ∀ p, pdu = some p → p ≠ 0 ∧ p + 1024 ≤ 18446744073709551616)
    (m : Mem) (l0 : List Access) (h0 : L 0 = pdu.getD 0) (hK : evalE (mkEnv e rom glob) L K = some k)
    (hk : k < 4294967296) (hV : evalE (mkEnv e rom glob) L V = some v) (hv : v < 18446744073709551616) (hg : 27 < g) :
    exec (mkEnv e rom glob) g (.call none "Avtp_SetField" [.glob T, .cast .i32 .u8 (.lit N), .var 0, K, V]) L ⟨m, l0⟩
      = some (.next, L, ⟨setField e tbl N m pdu k v, l0 ++ (setFieldLog e tbl N m pdu k v).2⟩) :=
  exec_call (by simp (disch := omega) [csem, hT, h0, hK, hV])
    (Avtp_SetField_refines_from l0 e rom glob tbl tb hrom hvalid N k v hN hk hv hNl pdu hpdu m) hg

theorem call_GetField {T : String} {N t k g : Nat} {K : Expr} {L : Locals} (hT : glob T = tb) (hN : N < 256)
    (hNl : N ≤ tbl.length) (pdu : Option Nat) (hpdu : ∀ p, pdu = some p → p ≠ 0 ∧ p + 1024 ≤ 18446744073709551616)
    (m : Mem) (l0 : List Access) (h0 : L 0 = pdu.getD 0) (hK : evalE (mkEnv e rom glob) L K = some k)
    (hk : k < 4294967296) (hg : 27 < g) :
    exec (mkEnv e rom glob) g (.call (some t) "Avtp_GetField" [.glob T, .cast .i32 .u8 (.lit N), .var 0, K]) L ⟨m, l0⟩
      = some (.next, upd L t (getField e tbl N m pdu k), ⟨m, l0 ++ (getFieldLog e tbl N m pdu k).2⟩) :=
  exec_call (by simp (disch := omega) [csem, hT, h0, hK])
    (Avtp_GetField_refines_from l0 e rom glob tbl tb hrom hvalid N k hN hk hNl pdu hpdu m) hg

/-- The shape in which the per-format generic readers are written,
    `X_GetField(pdu, field) { return Avtp_GetField(T, N, (uint8_t*)pdu, field); }`: a call of such a
    function is the Model reader on the table `T` with `N` fields. -/
theorem call_fwdGet (name T : String) (N t : Nat) (F : Fn)
    (hF : findFn (Gen.Cir.prog e) name = some F)
    (hbody : F.body = .seq (.call (some t) "Avtp_GetField" [.glob T, .cast .i32 .u8 (.lit N), .var 0, .var 1])
                            (.ret (some (.var t))))
    (hglob : glob T = tb) (hN : N < 256) (hNl : N ≤ tbl.length)
    (g : Nat) (hg : 29 ≤ g) (L : Locals) (args : List Expr) (dst : Option Nat)
    (field : Nat) (pdu : Option Nat)
    (hargs : evalArgs (mkEnv e rom glob) L args = some [pdu.getD 0, field])
    (hfield : field < 4294967296)
    (hpdu : ∀ p, pdu = some p → p ≠ 0 ∧ p + 1024 ≤ 18446744073709551616) (m : Mem) (l0 : List Access) :
    exec (mkEnv e rom glob) (g + 1) (.call dst name args) L ⟨m, l0⟩
      = some (.next, setDst L dst (getFieldLogFrom l0 e tbl N m pdu field).1,
              ⟨m, (getFieldLogFrom l0 e tbl N m pdu field).2⟩) := by
  rw [getFieldLogFrom_eq]
  exact exec_call hargs (n := 29) (callFn_ret hF (hbody ▸ exec_seq
    (call_GetField e rom glob tbl tb hrom hvalid (L := mkFrame [pdu.getD 0, field]) (g := 28) hglob hN hNl pdu hpdu m l0
      rfl rfl hfield (by decide))
    (exec_ret (v := getField e tbl N m pdu field) (by simp [csem])))) (by omega)
end

/-- The condition on the PDU argument, for a pointer that is not NULL. -/
theorem pdu_some {p : Nat} (hp0 : p ≠ 0) (hpb : p + 1024 ≤ 18446744073709551616) :
    ∀ q, some p = some q → q ≠ 0 ∧ q + 1024 ≤ 18446744073709551616 := by
  rintro q ⟨⟩; exact ⟨hp0, hpb⟩

end O1722.Refine
