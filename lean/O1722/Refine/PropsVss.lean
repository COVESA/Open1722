/-
  C09 for the C text of `Avtp_Vss_Pad` with the table /repo currently contains (`Gen.vss.table`,
  regenerated): `Avtp_Vss_Pad_refines` composed with `C09_pad`.  CODE-DEPENDENT.
-/
import O1722.Refine.VssPad
import O1722.Gen.Data
import O1722.Props.Vss
open O1722 O1722.C
namespace O1722.Refine

section
variable (e : Endian) (rom : Nat → Byte) (glob : String → Nat) (tb : Nat)
  (hrom : RomTable rom tb Gen.vss.table) (hglob : glob "Avtp_VssFieldDesc" = tb)
include hrom hglob

/-- **C09 on the C text.**  Finalising a VSS message of any length 12..2044 at any address, over
    any prior memory, on either host byte order: the length field becomes ceil(len/4), the pad
    field the number of bytes added, exactly those bytes are zeroed, nothing else changes. -/
theorem C09_code (p len : Nat) (hp0 : p ≠ 0) (hpb : p + 70000 ≤ 18446744073709551616)
    (h12 : 12 ≤ len) (hmax : len ≤ 2044) (m : Mem) :
    ∃ r, (callFn (mkEnv e rom glob) 40 "Avtp_Vss_Pad" [p, len] ⟨m, []⟩).map (fun x => (x.1, x.2.mem)) = some (0, r)
      ∧ getNamed Spec.vss r p "ACF_MSG_LENGTH" = (len + 3) / 4
      ∧ getNamed Spec.vss r p "PAD" = padOf len
      ∧ (∀ k, k < padOf len → r (p + len + k) = 0)
      ∧ (∀ a, (a < p ∨ (p + 12 ≤ a ∧ a < p + len) ∨ p + len + padOf len ≤ a) → r a = m a) := by
  have hvalid : ∀ d ∈ Gen.vss.table, d.Valid := by decide
  have h := Avtp_Vss_Pad_refines e rom glob Gen.vss.table tb hrom hvalid hglob (by decide)
    (setField_eq_setNamed Spec.vss Gen.vss.table 8 1 "ACF_MSG_LENGTH" _ _ rfl rfl (by decide) (by decide) e)
    (setField_eq_setNamed Spec.vss Gen.vss.table 8 2 "PAD" _ _ rfl rfl (by decide) (by decide) e)
    p len hp0 hpb (by omega) m
  obtain ⟨c1, c2, c3, c4, _⟩ := C09_pad m p len h12 hmax
  exact ⟨_, h, c1, c2, c3, c4⟩
end

end O1722.Refine
