/-
  The C text of `Avtp_GetField` (Gen/Cir.lean, run by CSem/Eval.lean) computes what the hand Model
  `getFieldLog` computes — result, final memory and access log — for every valid descriptor table, field
  identifier, PDU address, memory and host byte order.  CODE-DEPENDENT: rebuilt against the regenerated
  Gen/Cir.lean; a change in the shape of the C text breaks the proof.
-/
import O1722.CSem.Mono
import O1722.Lemmas.Log
import O1722.Refine.Lookup
open O1722 O1722.C
namespace O1722.Refine
open Gen.Cir

def mkEnv (e : Endian) (rom : Nat → Byte) (glob : String → Nat) : Env :=
  { prog := Gen.Cir.prog e, glob := glob, rom := rom, ext := fun _ _ => none, endian := e }
@[simp] theorem mkEnv_prog (e rom glob) : (mkEnv e rom glob).prog = Gen.Cir.prog e := rfl
@[simp] theorem mkEnv_glob (e rom glob) : (mkEnv e rom glob).glob = glob := rfl
@[simp] theorem mkEnv_rom (e rom glob) : (mkEnv e rom glob).rom = rom := rfl
@[simp] theorem mkEnv_endian (e rom glob) : (mkEnv e rom glob).endian = e := rfl
@[simp] theorem mkEnv_ext (e rom glob) (n a) : (mkEnv e rom glob).ext n a = none := rfl

@[simp] theorem b2n_ne_zero (b : Bool) : (b2n b ≠ 0) = (b = true) := by cases b <;> simp [b2n]
@[simp] theorem b2n_eq_zero (b : Bool) : (b2n b = 0) = (b = false) := by cases b <;> simp [b2n]

@[simp] theorem mkFrame_cons_zero (a : Nat) (l : List Nat) : mkFrame (a :: l) 0 = a := rfl
@[simp] theorem mkFrame_cons_succ (a : Nat) (l : List Nat) (n : Nat) : mkFrame (a :: l) (n + 1) = mkFrame l n := by
  simp [mkFrame]
@[simp] theorem mkFrame_nil (n : Nat) : mkFrame [] n = 0 := by simp [mkFrame]

/-- The constant descriptor table `tbl` is laid out at address `tb` of the read-only data; a row is an
    `Avtp_FieldDescriptor_t`, three `uint8_t`. -/
structure RomTable (rom : Nat → Byte) (tb : Nat) (tbl : List Desc) : Prop where
  rows : ∀ i (h : i < tbl.length), (rom (tb + 3 * i)).val = tbl[i].quadlet
    ∧ (rom (tb + 3 * i + 1)).val = tbl[i].offset ∧ (rom (tb + 3 * i + 2)).val = tbl[i].bits
  bound : tb + 3 * tbl.length < 18446744073709551616
  nonnull : tb ≠ 0

/-- `Avtp_BeToCpu32` and `Avtp_CpuToBe32` have one text: `return Avtp_Bswap32(x)` on a
    little-endian host, `return x` on a big-endian one. -/
theorem call_beCpu32 (e : Endian) (rom glob) {fn : String} (hfn : fn = "Avtp_BeToCpu32" ∨ fn = "Avtp_CpuToBe32")
    (f dst : Nat) (a : Expr) (L : Locals) (s : St) (x : Nat) (ha : evalE (mkEnv e rom glob) L a = some x) :
    exec (mkEnv e rom glob) (f + 4) (.call (some dst) fn [a]) L s
      = some (.next, upd L dst (beCpu32 e x), s) := by
  have hargs : evalArgs (mkEnv e rom glob) L [a] = some [x] := by simp [evalArgs, ha]
  cases e
  · have hswap : callFn (mkEnv .little rom glob) 1 "Avtp_Bswap32" [x] s = some (bswap32 x, s) :=
      callFn_ret (find_Avtp_Bswap32 .little) (exec_ret (by simp [csem, bswap32]))
    rcases hfn with rfl | rfl
    · exact exec_call (n := 3) hargs (callFn_ret (find_Avtp_BeToCpu32 .little)
        (exec_seq (exec_call rfl hswap (by decide)) (exec_ret rfl))) (by omega)
    · exact exec_call (n := 3) hargs (callFn_ret (find_Avtp_CpuToBe32 .little)
        (exec_seq (exec_call rfl hswap (by decide)) (exec_ret rfl))) (by omega)
  · rcases hfn with rfl | rfl
    · exact exec_call (n := 1) hargs (callFn_ret (find_Avtp_BeToCpu32 .big) (exec_ret rfl)) (by omega)
    · exact exec_call (n := 1) hargs (callFn_ret (find_Avtp_CpuToBe32 .big) (exec_ret rfl)) (by omega)

/-- `1ULL << quadletBits`, from which the mask is made, neither vanishes nor wraps. -/
theorem one_shl_bounds {q : Nat} (h : q ≤ 32) : 1 ≤ 1 <<< q ∧ 1 <<< q < 18446744073709551616 := by
  rw [Nat.shiftLeft_eq, Nat.one_mul]
  exact ⟨Nat.two_pow_pos q, Nat.lt_of_le_of_lt (Nat.pow_le_pow_right (by decide) h) (by decide)⟩

section
variable (e : Endian) (rom : Nat → Byte) (glob : String → Nat) (d : Desc) (fd : Nat)
  (hq : (rom fd).val = d.quadlet) (ho : (rom (fd + 1)).val = d.offset) (hb : (rom (fd + 2)).val = d.bits)
  (hfd : fd + 2 < 18446744073709551616) (hd : d.Valid)
include hq ho hb hfd hd

omit hq in
/-- `quadletBits = MIN(…)` and `quadletShift` of one iteration; reader and writer have the same text. -/
theorem w0_s1 (f : Nat) (L : Locals) (st : St) (pb : Nat) (h5 : L 5 = fd) (h7 : L 7 = pb)
    (hlt : pb < d.bits) :
    exec (mkEnv e rom glob) (f + 3) Avtp_GetField_w0_s1 L st
      = some (.next, upd (upd L 9 (quadletBits d pb)) 10 (quadletShift d pb (quadletBits d pb)), st) := by
  obtain ⟨hdo, hdb, _⟩ := hd
  by_cases hp : pb = 0
  · subst hp
    refine exec_ite_pos (x := 1) ?_ (by decide) (exec_seq (exec_set ?_) (exec_set ?_))
    · simp (disch := omega) [csem, h7]
    · rw [quadletBits_eq, if_pos rfl]
      by_cases hc : 32 - d.offset < d.bits <;>
        simp (disch := omega) [csem, h5, h7, ho, hb, hc]
    · simp (disch := omega) [csem, h5, ho, quadletBits_eq, quadletShift_eq]
  · refine exec_ite_neg ?_ (exec_seq (exec_set ?_) (exec_set ?_))
    · simp (disch := omega) [csem, h7, hp]
    · rw [quadletBits_eq, if_neg hp]
      by_cases hc : 32 < d.bits - pb <;>
        simp (disch := omega) [csem, h5, h7, hb, hc]
    · simp (disch := omega) [csem, hp, quadletBits_eq, quadletShift_eq]

omit hq ho hd in
theorem w0_cond_eval (L : Locals) (pb : Nat) (h5 : L 5 = fd) (h7 : L 7 = pb) (hpb : pb < 256) :
    evalE (mkEnv e rom glob) L Avtp_GetField_w0_cond = some (b2n (decide (pb < d.bits))) := by
  have hdb : d.bits < 256 := by rw [← hb]; exact (rom (fd + 2)).isLt
  simp (disch := omega) [Avtp_GetField_w0_cond, csem, h5, h7, hb]

theorem getBody (pdu : Nat) (hpdu : pdu + 1024 ≤ 18446744073709551616) (hp0 : pdu ≠ 0)
    (m : Mem) (log : List Access) (L : Locals) (qo pb res : Nat)
    (h2 : L 2 = pdu) (h4 : L 4 = res) (h5 : L 5 = fd) (h6 : L 6 = qo) (h7 : L 7 = pb)
    (hinv : PosInv d qo pb) (hlt : pb < d.bits) (hqo : qo < 256) (f : Nat) :
    let qid := (d.quadlet + qo) % 256
    let qbits := quadletBits d pb
    let qshift := quadletShift d pb qbits
    let mask := quadletMask qbits qshift
    let addr := pdu + qid * 4
    let host := beCpu32 e (load e 4 m addr)
    let part := (host &&& mask) >>> qshift
    ∃ L', exec (mkEnv e rom glob) (f + 16) Avtp_GetField_w0_body L ⟨m, log⟩
        = some (.next, L', ⟨m, log ++ [⟨addr, 4, 1, false⟩]⟩)
      ∧ L' 2 = pdu ∧ L' 4 = (res ||| ((part <<< (d.bits - pb - qbits)) % 2 ^ 64)) ∧ L' 5 = fd
      ∧ L' 6 = (qo + 1) % 256 ∧ L' 7 = (pb + qbits) % 256 := by
  intro qid qbits qshift mask addr host part
  obtain ⟨g1, g2, g3, -, g5, -⟩ := chunk_geom d hd qo pb hlt hinv.2
  have hdb : d.bits ≤ 64 := hd.2.1
  clear hinv
  have hdq : d.quadlet < 256 := by rw [← hq]; exact (rom fd).isLt
  have hqid : qid < 256 := Nat.mod_lt _ (by decide)
  have hmask : mask < 4294967296 := Nat.mod_lt _ (by decide)
  have hpart : part < 4294967296 :=
    Nat.lt_of_le_of_lt (Nat.le_trans (Nat.shiftRight_le _ _) Nat.and_le_right) hmask
  obtain ⟨h1, h1'⟩ := one_shl_bounds (show qbits ≤ 32 by omega)
  refine ⟨?_, ?_, ?_⟩
  rotate_left
  · refine exec_seq (exec_set (v := qid) (by simp (disch := omega) [csem, h5, h6, hq, qid])) ?_
    refine exec_seq (w0_s1 e rom glob d fd ho hb hfd hd _ _ _ pb (by simp [upd, h5]) (by simp [upd, h7]) hlt) ?_
    refine exec_seq (exec_set (v := mask) (by simp (disch := omega) [csem, mask, qbits, qshift, quadletMask])) ?_
    refine exec_seq (exec_set (v := addr) (by simp (disch := omega) [csem, h2, addr])) ?_
    refine exec_seq (exec_loadObj (p := addr) (by simp [csem]) (by show pdu + qid * 4 ≠ 0; omega)) ?_
    refine exec_seq (exec_seq (call_beCpu32 e rom glob (.inl rfl) _ 15 _ _ _ (load e 4 m addr) (by simp [csem]))
      (exec_set (v := host) (by simp [csem, host]))) ?_
    refine exec_seq (exec_set (v := part) (by simp (disch := omega) [csem, part, qshift, qbits])) ?_
    refine exec_seq (exec_set (v := res ||| ((part <<< (d.bits - pb - qbits)) % 2 ^ 64))
      (by simp (disch := omega) [csem, h4, h5, h7, hb, qbits])) ?_
    refine exec_seq (exec_set (v := (qo + 1) % 256) (by simp (disch := omega) [csem, h6])) ?_
    refine exec_set (v := (pb + qbits) % 256) ?_
    simp (disch := omega) [csem, h7, qbits]
  · simp [upd, h2, h5]

theorem getLoop_refines (pdu : Nat) (hpdu : pdu + 1024 ≤ 18446744073709551616) (hp0 : pdu ≠ 0) (m : Mem) :
    ∀ (k : Nat) (L : Locals) (log : List Access) (qo pb res : Nat),
      L 2 = pdu → L 4 = res → L 5 = fd → L 6 = qo → L 7 = pb → PosInv d qo pb → qo < 256 →
      (d.bits - pb) + (if pb = 0 then d.offset else 0) ≤ 32 * k →
      ∃ L', exec (mkEnv e rom glob) (k + 17) (.while Avtp_GetField_w0_cond Avtp_GetField_w0_body) L ⟨m, log⟩
          = some (.next, L', ⟨m, (getLoop e d m pdu k qo pb res log).2⟩)
        ∧ L' 4 = (getLoop e d m pdu k qo pb res log).1 := by
  intro k
  induction k with
  | zero =>
    intro L log qo pb res h2 h4 h5 h6 h7 hinv hqo hk
    have hc := w0_cond_eval e rom glob d fd hb hfd L pb h5 h7 (by have := hinv.1; have := hd.2.1; omega)
    exact ⟨L, exec_while_neg (hc.trans (by simp; omega)), h4⟩
  | succ k ih =>
    intro L log qo pb res h2 h4 h5 h6 h7 hinv hqo hk
    have hc := w0_cond_eval e rom glob d fd hb hfd L pb h5 h7 (by have := hinv.1; have := hd.2.1; omega)
    rw [getLoop]
    by_cases hlt : pb < d.bits
    · obtain ⟨L1, hb1, k2, k4, k5, k6, k7⟩ :=
        getBody e rom glob d fd hq ho hb hfd hd pdu hpdu hp0 m log L qo pb res h2 h4 h5 h6 h7 hinv hlt hqo (k + 1)
      obtain ⟨L', hex, hres⟩ := ih L1 _ _ _ _ k2 k4 k5 k6 k7 (posInv_step d hd qo pb hinv hlt).1
        (Nat.mod_lt _ (by decide)) (walk_variant d hd qo pb k hinv hlt hk)
      rw [if_pos hlt]
      exact ⟨L', exec_while_pos hc (by simp [hlt]) hb1 hex, hres⟩
    · rw [if_neg hlt]
      exact ⟨L, exec_while_neg (hc.trans (by simp [hlt])), h4⟩
end

theorem getLoop_append (e : Endian) (d : Desc) (m : Mem) (pdu : Nat) (l0 : List Access) :
    ∀ k qo pb res l, getLoop e d m pdu k qo pb res (l0 ++ l)
      = ((getLoop e d m pdu k qo pb res l).1, l0 ++ (getLoop e d m pdu k qo pb res l).2) := by
  intro k
  induction k with
  | zero => intros; rfl
  | succ k ih =>
    intro qo pb res l
    simp only [getLoop]
    split
    · rw [List.append_assoc, ih]
    · rfl

theorem Avtp_GetField_refines_from (l0 : List Access) (e : Endian) (rom : Nat → Byte) (glob : String → Nat) (tbl : List Desc) (tb : Nat)
    (hrom : RomTable rom tb tbl) (hvalid : ∀ d ∈ tbl, d.Valid)
    (numFields field : Nat) (hnf : numFields < 256) (hfield : field < 4294967296) (hn : numFields ≤ tbl.length)
    (pdu : Option Nat) (hpdu : ∀ p, pdu = some p → p ≠ 0 ∧ p + 1024 ≤ 18446744073709551616) (m : Mem) :
    callFn (mkEnv e rom glob) 27 "Avtp_GetField" [tb, numFields, pdu.getD 0, field] ⟨m, l0⟩
      = some (getField e tbl numFields m pdu field, ⟨m, l0 ++ (getFieldLog e tbl numFields m pdu field).2⟩) := by
  have htb := hrom.nonnull
  by_cases hgo : pdu.getD 0 ≠ 0 ∧ field < numFields
  · obtain ⟨hp, hf⟩ := hgo
    obtain ⟨p, rfl⟩ : ∃ p, pdu = some p := by
      cases pdu with
      | none => simp at hp
      | some p => exact ⟨p, rfl⟩
    obtain ⟨hp0, hpb⟩ := hpdu p rfl
    have hfl : field < tbl.length := by omega
    obtain ⟨r1, r2, r3⟩ := hrom.rows field hfl
    have hbound := hrom.bound
    have hd : (tbl[field]).Valid := hvalid _ (List.getElem_mem hfl)
    obtain ⟨L', hloop, hres⟩ := getLoop_refines e rom glob tbl[field] (tb + 3 * field) r1 r2 r3 (by omega) hd p hpb hp0 m 4
      (upd (upd (upd (upd (mkFrame [tb, numFields, p, field]) 4 0) 5 (tb + 3 * field)) 6 0) 7 0) l0 0 0 0
      rfl rfl rfl rfl rfl (posInv_init _) (by decide) (by have := hd.1; have := hd.2.1; simp; omega)
    have happ := getLoop_append e tbl[field] m p l0 4 0 0 0 []
    rw [List.append_nil] at happ
    rw [happ] at hloop hres
    rw [getField, show getFieldLog e tbl numFields m (some p) field = getLoop e tbl[field] m p 4 0 0 0 [] by
      simp [getFieldLog, hf, hfl, loopFuel], ← hres]
    refine callFn_ret (find_Avtp_GetField e) (exec_seq (exec_set (v := 0) ?_) (exec_seq (exec_ite_pos (x := 1) ?_ (by decide)
      (exec_seq (exec_set ?_) (exec_seq (exec_set (v := 0) ?_) (exec_seq (exec_set (v := 0) ?_) hloop)))) (exec_ret rfl)))
    · simp (disch := omega) [csem]
    · simp (disch := omega) [csem, htb, hp0, hf]
    · simp (disch := omega) [csem]; omega
    · simp (disch := omega) [csem]
    · simp (disch := omega) [csem]
  · have hrej : pdu = none ∨ numFields ≤ field := by
      cases pdu with
      | none => exact .inl rfl
      | some p => exact .inr (Nat.not_lt.mp fun h => hgo ⟨by simpa using (hpdu p rfl).1, h⟩)
    rw [getField, getFieldLog_rejected e tbl numFields m pdu field hrej, List.append_nil]
    refine callFn_ret (find_Avtp_GetField e) (exec_seq (exec_set (v := 0) ?_) (exec_seq (exec_ite_neg ?_ exec_skip) (exec_ret rfl)))
    · simp (disch := omega) [csem]
    · by_cases hp : pdu.getD 0 = 0
      · simp (disch := omega) [csem, htb, hp]
      · have hf : ¬ field < numFields := fun h => hgo ⟨hp, h⟩
        simp (disch := omega) [csem, htb, hp, hf]

/-- `= some …` at fuel 27: the call terminates and meets none of the undefined behaviours of CSem/Eval.lean.
    `p + 1024`: `quadletId` is a `uint8_t`, so no quadlet address `pdu + quadletId * 4` wraps. -/
theorem Avtp_GetField_refines (e : Endian) (rom : Nat → Byte) (glob : String → Nat) (tbl : List Desc) (tb : Nat)
    (hrom : RomTable rom tb tbl) (hvalid : ∀ d ∈ tbl, d.Valid)
    (numFields field : Nat) (hnf : numFields < 256) (hfield : field < 4294967296) (hn : numFields ≤ tbl.length)
    (pdu : Option Nat) (hpdu : ∀ p, pdu = some p → p ≠ 0 ∧ p + 1024 ≤ 18446744073709551616) (m : Mem) :
    callFn (mkEnv e rom glob) 27 "Avtp_GetField" [tb, numFields, pdu.getD 0, field] ⟨m, []⟩
      = some ((getFieldLog e tbl numFields m pdu field).1, ⟨m, (getFieldLog e tbl numFields m pdu field).2⟩) :=
  Avtp_GetField_refines_from [] e rom glob tbl tb hrom hvalid numFields field hnf hfield hn pdu hpdu m

end O1722.Refine
