/-
  Every per-format generic and dedicated getter / setter of the library as C text: a decidable check
  `checkAccessors g fns` compares each accessor record of Gen/Data.lean (what tools/translate.py
  recognised: table, field count, enumerator value, parameter / return width) with the body of the
  function of that name in Gen/Cir.lean (what tools/cir.py serialised, independently); when it holds,
  RUNNING that body returns `Getter.run` / leaves `Setter.run` (`getter_code`, `setter_code`) — the objects
  C01_format and C02_format speak about.  The per-format instances are regenerated.
-/
import O1722.Refine.Calls
import O1722.Model.Format
open O1722 O1722.C
namespace O1722.Refine

def tyOfBits : Nat → Option Ty
  | 8 => some .u8 | 16 => some .u16 | 32 => some .u32 | 64 => some .u64 | _ => none

def expectedGetterBody (x : Getter) : Option Stmt :=
  match x.field with
  | none =>
    if x.retBits = 64 ∧ x.fieldCastBits = 32 then
      some (.seq (.call (some 2) "Avtp_GetField" [.glob x.table, .cast .i32 .u8 (.lit x.numFields), .var 0, .var 1])
                 (.ret (some (.var 2))))
    else none
  | some (_, k) =>
    if x.retBits = 64 then
      some (.seq (.call (some 1) "Avtp_GetField" [.glob x.table, .cast .i32 .u8 (.lit x.numFields), .var 0, .cast .i32 .u32 (.lit k)])
                 (.ret (some (.var 1))))
    else (tyOfBits x.retBits).map fun ty =>
      .seq (.call (some 1) "Avtp_GetField" [.glob x.table, .cast .i32 .u8 (.lit x.numFields), .var 0, .cast .i32 .u32 (.lit k)])
           (.ret (some (.cast .u64 ty (.var 1))))

def expectedSetterBody (x : Setter) : Option Stmt :=
  match x.field with
  | none =>
    if x.valueBits = 64 ∧ x.fieldCastBits = 32 then
      some (.call none "Avtp_SetField" [.glob x.table, .cast .i32 .u8 (.lit x.numFields), .var 0, .var 1, .var 2])
    else none
  | some (_, k) =>
    if x.valueBits = 64 then
      some (.call none "Avtp_SetField" [.glob x.table, .cast .i32 .u8 (.lit x.numFields), .var 0, .cast .i32 .u32 (.lit k), .var 1])
    else (tyOfBits x.valueBits).map fun ty =>
      .call none "Avtp_SetField" [.glob x.table, .cast .i32 .u8 (.lit x.numFields), .var 0, .cast .i32 .u32 (.lit k), .cast ty .u64 (.var 1)]

def fieldOK (f : Option (String × Nat)) : Bool :=
  match f with | none => true | some (_, k) => decide (k < 2147483648)

def checkGetterCode (g : GenFormat) (fns : List Fn) (x : Getter) : Bool :=
  x.table == g.tableName && decide (x.numFields < 256) && decide (x.numFields ≤ g.table.length) && fieldOK x.field &&
    match fns.find? (fun F => F.name == x.fn) with
    | some F => some F.body == expectedGetterBody x
    | none => false

def checkSetterCode (g : GenFormat) (fns : List Fn) (x : Setter) : Bool :=
  x.table == g.tableName && decide (x.numFields < 256) && decide (x.numFields ≤ g.table.length) && fieldOK x.field &&
    !x.valueSigned &&
    match fns.find? (fun F => F.name == x.fn) with
    | some F => some F.body == expectedSetterBody x
    | none => false

def checkAccessors (g : GenFormat) (fns : List Fn) : Bool :=
  g.getters.all (checkGetterCode g fns) && g.setters.all (checkSetterCode g fns)

/-- `checkAccessors` with the function names compared as numbers (`key`): what the regenerated
    per-format obligations evaluate. -/
def checkAccessorsK (g : GenFormat) (fns : List Fn) : Bool :=
  g.getters.all (fun x => x.table == g.tableName && decide (x.numFields < 256) && decide (x.numFields ≤ g.table.length)
      && fieldOK x.field &&
      match findK fns x.fn with | some F => some F.body == expectedGetterBody x | none => false)
    && g.setters.all (fun x => x.table == g.tableName && decide (x.numFields < 256) && decide (x.numFields ≤ g.table.length)
      && fieldOK x.field && !x.valueSigned &&
      match findK fns x.fn with | some F => some F.body == expectedSetterBody x | none => false)

theorem checkAccessors_of_K {g : GenFormat} {fns : List Fn} (h : checkAccessorsK g fns = true) :
    checkAccessors g fns = true := by
  simp only [checkAccessorsK, findK_eq] at h
  exact h

theorem tyOfBits_bits {n : Nat} {ty : Ty} (h : tyOfBits n = some ty) : ty.bits = n ∧ ty.signed = false := by
  unfold tyOfBits at h
  split at h <;> simp at h <;> subst h <;> exact ⟨rfl, rfl⟩

theorem of_find_body {fns : List Fn} {n : String} {F : Fn} (h : fns.find? (fun F => F.name == n) = some F) :
    F ∈ fns ∧ F.name = n :=
  ⟨List.mem_of_find?_eq_some h, by simpa using List.find?_some h⟩

section
variable (e : Endian) (rom : Nat → Byte) (glob : String → Nat) (g : GenFormat) (tb : Nat)
  (hrom : RomTable rom tb g.table) (hvalid : ∀ d ∈ g.table, d.Valid) (hglob : glob g.tableName = tb)
include hrom hvalid hglob

section
variable (x : Getter) (F : Fn) (hbody : some F.body = expectedGetterBody x)
  (ht : x.table = g.tableName) (hN : x.numFields < 256) (hNl : x.numFields ≤ g.table.length)
  (hfo : fieldOK x.field = true)
  (pdu : Option Nat) (hpdu : ∀ p, pdu = some p → p ≠ 0 ∧ p + 1024 ≤ 18446744073709551616)
include hbody ht hN hNl hfo hpdu

theorem getter_body_exec (arg : Nat) (harg : arg < 4294967296) (L : Locals) (h0 : L 0 = pdu.getD 0)
    (h1 : x.field = none → L 1 = arg) (m : Mem) (l0 : List Access) :
    ∃ L', exec (mkEnv e rom glob) 31 F.body L ⟨m, l0⟩
      = some (.ret (x.run g.table e m pdu arg), L', ⟨m, l0 ++ x.log g.table e m pdu arg⟩) := by
  have hlt := getField_lt e g.table x.numFields m pdu (fieldArg x.field x.fieldCastBits arg)
  -- `{ t = Avtp_GetField(T, N, pdu, K); return R; }`, the shape of every getter: `K` is the identifier handed
  -- on, `R` the conversion of the result to the return type
  have ret : ∀ {t k r : Nat} {K R : Expr}, evalE (mkEnv e rom glob) L K = some k → k < 4294967296 →
      evalE (mkEnv e rom glob) (upd L t (getField e g.table x.numFields m pdu k)) R = some r →
      ∃ L', exec (mkEnv e rom glob) 31 (.seq (.call (some t) "Avtp_GetField"
          [.glob x.table, .cast .i32 .u8 (.lit x.numFields), .var 0, K]) (.ret (some R))) L ⟨m, l0⟩
        = some (.ret r, L', ⟨m, l0 ++ (getFieldLog e g.table x.numFields m pdu k).2⟩) :=
    fun hK hk hR => ⟨_, exec_seq
      (call_GetField e rom glob g.table tb hrom hvalid (ht ▸ hglob) hN hNl pdu hpdu m l0 h0 hK hk (by decide)) (exec_ret hR)⟩
  unfold expectedGetterBody at hbody
  unfold Getter.run Getter.log
  cases hf : x.field with
  | none =>
    simp only [hf] at hbody hlt ⊢
    split at hbody
    · rename_i hc
      have hk : fieldArg none x.fieldCastBits arg = arg := by
        rw [hc.2]; exact Nat.mod_eq_of_lt harg
      rw [hk] at hlt ⊢
      rw [Option.some.inj hbody]
      exact ret (by simp [csem, h1 hf]) harg (by simp [csem, hc.1, Nat.mod_eq_of_lt hlt])
    · cases hbody
  | some fk =>
    obtain ⟨en, k⟩ := fk
    rw [hf] at hfo
    simp only [fieldOK, decide_eq_true_eq] at hfo
    simp only [hf, fieldArg] at hbody hlt ⊢
    have hK : evalE (mkEnv e rom glob) L (.cast .i32 .u32 (.lit k)) = some k := by simp (disch := omega) [csem]
    split at hbody
    · rename_i hr64
      rw [Option.some.inj hbody]
      exact ret hK (by omega) (by simp [csem, hr64, Nat.mod_eq_of_lt hlt])
    · obtain ⟨ty, hty, hF⟩ := Option.map_eq_some_iff.mp hbody.symm
      rw [← hF]
      exact ret hK (by omega) (by rw [← (tyOfBits_bits hty).1]; simp [csem])

theorem call_getter {fn : String} (hF : findFn (Gen.Cir.prog e) fn = some F) (arg : Nat) (harg : arg < 4294967296)
    {f : Nat} (hf : 31 < f) {L : Locals} {args : List Expr} {vs : List Nat}
    (dst : Nat) (hargs : evalArgs (mkEnv e rom glob) L args = some vs)
    (h0 : mkFrame vs 0 = pdu.getD 0) (h1 : x.field = none → mkFrame vs 1 = arg) (m : Mem) (l0 : List Access) :
    exec (mkEnv e rom glob) f (.call (some dst) fn args) L ⟨m, l0⟩
      = some (.next, upd L dst (x.run g.table e m pdu arg), ⟨m, l0 ++ x.log g.table e m pdu arg⟩) := by
  obtain ⟨L', h⟩ := getter_body_exec e rom glob g tb hrom hvalid hglob x F hbody ht hN hNl hfo pdu hpdu arg harg
    (mkFrame vs) h0 h1 m l0
  exact exec_call hargs (callFn_ret hF h) hf
end

theorem getter_code (fns : List Fn) (x : Getter) (h : checkGetterCode g fns x = true)
    (pdu : Option Nat) (hpdu : ∀ p, pdu = some p → p ≠ 0 ∧ p + 1024 ≤ 18446744073709551616)
    (arg : Nat) (harg : arg < 4294967296) (m : Mem) :
    ∃ F ∈ fns, F.name = x.fn ∧
      (exec (mkEnv e rom glob) 31 F.body (mkFrame [pdu.getD 0, arg]) ⟨m, []⟩).map (fun r => (r.1, r.2.2.mem))
        = some (.ret (x.run g.table e m pdu arg), m) := by
  simp only [checkGetterCode, Bool.and_eq_true, beq_iff_eq, decide_eq_true_eq] at h
  obtain ⟨⟨⟨⟨ht, hN⟩, hNl⟩, hfo⟩, hm⟩ := h
  split at hm
  · rename_i F hfind
    obtain ⟨L', hex⟩ := getter_body_exec e rom glob g tb hrom hvalid hglob x F (by simpa using hm) ht hN hNl hfo
      pdu hpdu arg harg (mkFrame [pdu.getD 0, arg]) rfl (fun _ => rfl) m []
    exact ⟨F, (of_find_body hfind).1, (of_find_body hfind).2, by rw [hex]; rfl⟩
  · cases hm

section
variable (x : Setter) (F : Fn) (hbody : some F.body = expectedSetterBody x)
  (ht : x.table = g.tableName) (hN : x.numFields < 256) (hNl : x.numFields ≤ g.table.length)
  (hfo : fieldOK x.field = true)
  (pdu : Option Nat) (hpdu : ∀ p, pdu = some p → p ≠ 0 ∧ p + 1024 ≤ 18446744073709551616)
include hbody ht hN hNl hfo hpdu

/-- The frame is `[pdu, field, value]` for the generic writer and `[pdu, value]` for a dedicated setter. -/
theorem setter_body_exec (arg v : Nat) (harg : arg < 4294967296) (hv : v < 2 ^ x.valueBits) (hvb : x.valueBits ≤ 64)
    (m : Mem) (l0 : List Access) :
    exec (mkEnv e rom glob) 31 F.body
        (mkFrame (match x.field with | none => [pdu.getD 0, arg, v] | some _ => [pdu.getD 0, v])) ⟨m, l0⟩
      = some (.next, mkFrame (match x.field with | none => [pdu.getD 0, arg, v] | some _ => [pdu.getD 0, v]),
              ⟨x.run g.table e m pdu arg v, l0 ++ x.log g.table e m pdu arg v⟩) := by
  have hv64 : v < 18446744073709551616 :=
    Nat.lt_of_lt_of_le hv (Nat.pow_le_pow_right (by decide) hvb)
  have hgl : glob x.table = tb := ht ▸ hglob
  unfold expectedSetterBody at hbody
  unfold Setter.run Setter.log
  rw [Nat.mod_eq_of_lt hv]
  cases hf : x.field with
  | none =>
    simp only [hf] at hbody ⊢
    split at hbody
    · rename_i hc
      rw [show fieldArg none x.fieldCastBits arg = arg by rw [hc.2]; exact Nat.mod_eq_of_lt harg, Option.some.inj hbody]
      exact call_SetField e rom glob g.table tb hrom hvalid hgl hN hNl pdu hpdu m l0 rfl rfl harg rfl hv64 (by decide)
    · cases hbody
  | some fk =>
    obtain ⟨en, k⟩ := fk
    rw [hf] at hfo
    simp only [fieldOK, decide_eq_true_eq] at hfo
    simp only [hf, fieldArg] at hbody ⊢
    have hK : ∀ L, evalE (mkEnv e rom glob) L (.cast .i32 .u32 (.lit k)) = some k := by
      intro L; simp (disch := omega) [csem]
    split at hbody
    · rw [Option.some.inj hbody]
      exact call_SetField e rom glob g.table tb hrom hvalid hgl hN hNl pdu hpdu m l0 rfl (hK _) (by omega) rfl hv64 (by decide)
    · obtain ⟨ty, hty, hF⟩ := Option.map_eq_some_iff.mp hbody.symm
      obtain ⟨hbits, hsg⟩ := tyOfBits_bits hty
      rw [← hF]
      exact call_SetField e rom glob g.table tb hrom hvalid hgl hN hNl pdu hpdu m l0 rfl (hK _) (by omega)
        (by simp (disch := omega) [csem, conv_of_unsigned _ _ _ hsg]) hv64 (by decide)

theorem call_setter {fn : String} (hF : findFn (Gen.Cir.prog e) fn = some F) (arg v : Nat) (harg : arg < 4294967296)
    (hv : v < 2 ^ x.valueBits) (hvb : x.valueBits ≤ 64)
    {f : Nat} (hf : 31 < f) {L : Locals} {args : List Expr}
    (hargs : evalArgs (mkEnv e rom glob) L args
      = some (match x.field with | none => [pdu.getD 0, arg, v] | some _ => [pdu.getD 0, v])) (m : Mem) (l0 : List Access) :
    exec (mkEnv e rom glob) f (.call none fn args) L ⟨m, l0⟩
      = some (.next, L, ⟨x.run g.table e m pdu arg v, l0 ++ x.log g.table e m pdu arg v⟩) :=
  exec_call hargs (callFn_next hF
    (setter_body_exec e rom glob g tb hrom hvalid hglob x F hbody ht hN hNl hfo pdu hpdu arg v harg hv hvb m l0)) hf
end

theorem setter_body_code (x : Setter) (F : Fn) (hbody : some F.body = expectedSetterBody x)
    (ht : x.table = g.tableName) (hN : x.numFields < 256) (hNl : x.numFields ≤ g.table.length)
    (hfo : fieldOK x.field = true)
    (pdu : Option Nat) (hpdu : ∀ p, pdu = some p → p ≠ 0 ∧ p + 1024 ≤ 18446744073709551616)
    (arg v : Nat) (harg : arg < 4294967296) (hv : v < 2 ^ x.valueBits) (hvb : x.valueBits ≤ 64) (m : Mem)
    (l0 : List Access) :
    (exec (mkEnv e rom glob) 31 F.body
        (mkFrame (match x.field with | none => [pdu.getD 0, arg, v] | some _ => [pdu.getD 0, v])) ⟨m, l0⟩).map
      (fun r => r.2.2.mem) = some (x.run g.table e m pdu arg v) := by
  rw [setter_body_exec e rom glob g tb hrom hvalid hglob x F hbody ht hN hNl hfo pdu hpdu arg v harg hv hvb m l0]
  rfl

theorem setter_code (fns : List Fn) (x : Setter) (h : checkSetterCode g fns x = true)
    (pdu : Option Nat) (hpdu : ∀ p, pdu = some p → p ≠ 0 ∧ p + 1024 ≤ 18446744073709551616)
    (arg v : Nat) (harg : arg < 4294967296) (hv : v < 2 ^ x.valueBits) (hvb : x.valueBits ≤ 64) (m : Mem)
    (l0 : List Access := []) :
    ∃ F ∈ fns, F.name = x.fn ∧
      (exec (mkEnv e rom glob) 31 F.body
          (mkFrame (match x.field with | none => [pdu.getD 0, arg, v] | some _ => [pdu.getD 0, v])) ⟨m, l0⟩).map
        (fun r => r.2.2.mem) = some (x.run g.table e m pdu arg v) := by
  simp only [checkSetterCode, Bool.and_eq_true, beq_iff_eq, decide_eq_true_eq, Bool.not_eq_true'] at h
  obtain ⟨⟨⟨⟨⟨ht, hN⟩, hNl⟩, hfo⟩, _⟩, hm⟩ := h
  split at hm
  · rename_i F hfind
    exact ⟨F, (of_find_body hfind).1, (of_find_body hfind).2,
      setter_body_code e rom glob g tb hrom hvalid hglob x F (by simpa using hm) ht hN hNl hfo pdu hpdu arg v harg hv hvb m l0⟩
  · cases hm
end

end O1722.Refine
