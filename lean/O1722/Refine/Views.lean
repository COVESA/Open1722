/-
  C17 on the C text: two dedicated getters of two formats (two "views" of the same octets) whose Spec
  fields occupy the same wire bits return the same value when their C bodies are run on the same memory at
  the same PDU address — e.g. `Avtp_CommonHeader_GetSubtype` and `Avtp_Tscf_GetSubtype`,
  `Avtp_AcfCommon_GetAcfMsgLength` and `Avtp_Vss_GetAcfMsgLength`.  Instantiated per pair in the
  regenerated Gen/InstAcc.lean.
-/
import O1722.Refine.AccessorsFormat
open O1722 O1722.C O1722.Spec
namespace O1722.Refine

theorem C17_code_views (e : Endian) (glob : String → Nat)
    (rom : Nat → Byte)
    (s1 s2 : FormatSpec) (g1 g2 : GenFormat) (fns1 fns2 : List Fn) (tb1 tb2 : Nat)
    (hrom1 : RomTable rom tb1 g1.table) (hrom2 : RomTable rom tb2 g2.table)
    (hv1 : ∀ d ∈ g1.table, d.Valid) (hv2 : ∀ d ∈ g2.table, d.Valid)
    (hg1 : glob g1.tableName = tb1) (hg2 : glob g2.tableName = tb2)
    (ha1 : checkAccessors g1 fns1 = true) (ha2 : checkAccessors g2 fns2 = true)
    (h1 : checkC01 s1 g1 = true) (h2 : checkC01 s2 g2 = true)
    (x1 : Getter) (hx1 : x1 ∈ g1.getters) (hd1 : x1.field.isSome = true)
    (x2 : Getter) (hx2 : x2 ∈ g2.getters) (hd2 : x2.field.isSome = true)
    -- the two accessors' Spec fields are the same wire bits (a decidable fact about the two Specs)
    (hsame : ∀ fs1 ∈ s1.fields, ∀ fs2 ∈ s2.fields, s1.getterName fs1 = x1.fn → s2.getterName fs2 = x2.fn →
      fs1.first = fs2.first ∧ fs1.width = fs2.width)
    (p : Nat) (hp0 : p ≠ 0) (hpb : p + 1024 ≤ 18446744073709551616) (m : Mem) :
    ∃ F1 ∈ fns1, ∃ F2 ∈ fns2, F1.name = x1.fn ∧ F2.name = x2.fn ∧
      (exec (mkEnv e rom glob) 31 F1.body (mkFrame [p, 0]) ⟨m, []⟩).map (fun r => (r.1, r.2.2.mem))
        = (exec (mkEnv e rom glob) 31 F2.body (mkFrame [p, 0]) ⟨m, []⟩).map (fun r => (r.1, r.2.2.mem)) := by
  obtain ⟨fs1, hfs1, hn1, F1, hF1, hFn1, hex1⟩ :=
    C01_code_dedicated e rom glob s1 g1 fns1 tb1 hrom1 hv1 hg1 ha1 h1 x1 hx1 hd1 p hp0 hpb m
  obtain ⟨fs2, hfs2, hn2, F2, hF2, hFn2, hex2⟩ :=
    C01_code_dedicated e rom glob s2 g2 fns2 tb2 hrom2 hv2 hg2 ha2 h2 x2 hx2 hd2 p hp0 hpb m
  obtain ⟨hf, hw⟩ := hsame fs1 hfs1 fs2 hfs2 hn1 hn2
  exact ⟨F1, hF1, F2, hF2, hFn1, hFn2, by rw [hex1, hex2, hf, hw]⟩

end O1722.Refine
