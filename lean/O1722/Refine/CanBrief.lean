/-
  The C text of the abbreviated ACF-CAN builder `Avtp_CanBrief_SetPayload` (with `Avtp_CanBrief_Finalize`)
  leaves the memory and returns the length the hand Model `canCreate Spec.canBrief` describes (C06).
  CODE-DEPENDENT.
-/
import O1722.Refine.Can
open O1722 O1722.C
namespace O1722.Refine
open Gen.Cir

section
variable (e : Endian) (rom : Nat → Byte) (glob : String → Nat) (tbl : List Desc) (tb : Nat)
  (hrom : RomTable rom tb tbl) (hvalid : ∀ d ∈ tbl, d.Valid)
  (hglob : glob "Avtp_CanBriefFieldDesc" = tb) (hNl : 11 ≤ tbl.length)
  (hlen : ∀ m p v, setField e tbl 11 m (some p) 1 v = setNamed Spec.canBrief m p "ACF_MSG_LENGTH" v)
  (hpad : ∀ m p v, setField e tbl 11 m (some p) 2 v = setNamed Spec.canBrief m p "PAD" v)
include hrom hvalid hglob hNl

theorem canBrief_writer : Writer e rom glob tbl 11 "Avtp_CanBrief_SetField" :=
  ⟨hvalid, by decide, hNl, "Avtp_CanBriefFieldDesc", _, hglob ▸ hrom, find_Avtp_CanBrief_SetField e, rfl⟩

include hlen hpad

theorem Avtp_CanBrief_Finalize_call (p len : Nat) (hp0 : p ≠ 0) (hpb : p + 70000 ≤ 18446744073709551616)
    (hl : len < 65536) (m : Mem) (l0 : List Access) :
    ∃ l1, callFn (mkEnv e rom glob) 40 "Avtp_CanBrief_Finalize" [p, len] ⟨m, l0⟩
      = some ((canFinalize Spec.canBrief m p len).2, ⟨(canFinalize Spec.canBrief m p len).1, l1⟩) := by
  obtain ⟨L, l1, h3, hs⟩ := finalize_steps (canBrief_writer e rom glob tbl tb hrom hvalid hglob hNl) Spec.canBrief 2
    (by decide) hlen hpad rfl p len hp0 hpb hl m l0 (f := 35) (by decide)
  have hlt : (canFinalize Spec.canBrief m p len).2 < 70000 := by
    unfold canFinalize; simp only [show Spec.canBrief.headerLen = 8 from rfl]; split <;> simp only <;> omega
  exact ⟨l1, callFn_ret (find_Avtp_CanBrief_Finalize e) (exec_seqOf_concat
    (l := finalizeStmts 2 "Avtp_CanBrief_SetField") rfl hs (exec_ret (by simp (disch := omega) [csem, h3])))⟩

theorem Avtp_CanBrief_Finalize_mem (p len : Nat) (hp0 : p ≠ 0) (hpb : p + 70000 ≤ 18446744073709551616)
    (hl : len < 65536) (m : Mem) (l0 : List Access) :
    (callFn (mkEnv e rom glob) 40 "Avtp_CanBrief_Finalize" [p, len] ⟨m, l0⟩).map (fun r => (r.1, r.2.mem))
      = some ((canFinalize Spec.canBrief m p len).2, (canFinalize Spec.canBrief m p len).1) := by
  obtain ⟨l1, h⟩ := Avtp_CanBrief_Finalize_call e rom glob tbl tb hrom hvalid hglob hNl hlen hpad p len hp0 hpb hl m l0
  rw [h]; rfl

variable (heff : ∀ m p v, setField e tbl 11 m (some p) 5 v = setNamed Spec.canBrief m p "EFF" v)
  (hfdf : ∀ m p v, setField e tbl 11 m (some p) 7 v = setNamed Spec.canBrief m p "FDF" v)
  (hid : ∀ m p v, setField e tbl 11 m (some p) 10 v = setNamed Spec.canBrief m p "CAN_IDENTIFIER" v)
include heff hfdf hid

theorem Avtp_CanBrief_SetPayload_refines (p frameId src n variant : Nat) (hp0 : p ≠ 0)
    (hpb : p + 70000 ≤ 18446744073709551616) (hf : frameId < 4294967296) (hvar : variant < 4294967296)
    (hn : n < 65536) (hsrc : n = 0 ∨ src ≠ 0) (hdis : n = 0 ∨ p + 8 + n ≤ src ∨ src + n ≤ p + 8) (m : Mem) :
    (callFn (mkEnv e rom glob) 60 "Avtp_CanBrief_SetPayload" [p, frameId, src, n, variant] ⟨m, []⟩).map
        (fun r => (r.1, r.2.mem))
      = some ((canCreate Spec.canBrief m p frameId (m.read src n) variant).2,
              (canCreate Spec.canBrief m p frameId (m.read src n) variant).1) := by
  obtain ⟨l4, hmid⟩ := create_steps (canBrief_writer e rom glob tbl tb hrom hvalid hglob hNl) Spec.canBrief 10 (by decide)
    heff hfdf hid hp0 (by omega) hf (variant := variant) (L := mkFrame [p, frameId, src, n, variant]) rfl rfl rfl (f := 55) (by decide)
    (m.write (p + 8) (m.read src n)) _
  obtain ⟨lF, hF⟩ := Avtp_CanBrief_Finalize_call e rom glob tbl tb hrom hvalid hglob hNl hlen hpad p n hp0 hpb hn _ l4
  rw [show callFn (mkEnv e rom glob) 60 "Avtp_CanBrief_SetPayload" [p, frameId, src, n, variant] ⟨m, []⟩ = _ from
    callFn_ret (find_Avtp_CanBrief_SetPayload e) (exec_seqOf_concat
    (l := Avtp_CanBrief_SetPayload_s0 :: createStmts 10 "Avtp_CanBrief_SetField") rfl
    (.cons (exec_copy (pd := p + 8) (ps := src) (k := n) (by simp (disch := omega) [csem]) (by simp [csem])
      (by simp (disch := omega) [csem]) (by omega) (by simpa [disjointRanges] using hdis)) hmid)
    (exec_seq (exec_call (by simp [csem]) hF (by decide)) (exec_ret rfl)))]
  simp only [canCreate, canSetPayload, read_length, show Spec.canBrief.headerLen = 8 from rfl, Option.map, setDst, upd_same]
end

end O1722.Refine
