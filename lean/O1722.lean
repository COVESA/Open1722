import O1722.Spec.Wire
import O1722.Spec.Formats
import O1722.Spec.Vss
import O1722.Model.Utils
import O1722.Model.Format
import O1722.Model.Can
import O1722.Model.Vss
import O1722.Model.Headers
import O1722.Model.Tunnel
import O1722.Model.Listeners
import O1722.Lemmas.Bits
import O1722.Lemmas.Mem
import O1722.Lemmas.Byteorder
import O1722.Lemmas.Walk
import O1722.Lemmas.Get
import O1722.Lemmas.Set
import O1722.Lemmas.Log
import O1722.Lemmas.Holds
import O1722.Props.Fields
import O1722.Props.Header
import O1722.Props.Api
import O1722.Props.Conforms
import O1722.Props.History
import O1722.Props.Named
import O1722.Props.Byteorder
import O1722.Props.Can
import O1722.Props.Vss
import O1722.Props.Concurrency
import O1722.Props.Endian
import O1722.Props.Alignment
import O1722.Props.Headers
import O1722.Props.Tunnel
import O1722.Props.TunnelDet
import O1722.Props.Listeners
